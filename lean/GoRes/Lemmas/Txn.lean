import GoRes.Model.Txn
/-! BadgerDB's optimistic transactions and `Store.Init` over them (`Model/Txn.lean`): the database
is read as a map (`get_apply`: a key holds the newest write to it), Init's transaction by what it
reads (`initTxn_shape`: it reads the marker and every seed id, and writes only what it has read;
`seedLoop_congr`: what it writes depends on those values only; `seedLoop_get`: afterwards it
reads, for every id that read as free, the first seed for it), and a successful commit as the
certificate that nobody wrote what was read (`not_written_of_commit`); a transaction that commits
alone leaves behind what it would read (`get_apply_writes`). -/
namespace GoRes.Txn

variable {V : Type}

/-- every committed version is stamped no later than the clock -/
def WF (db : DB V) : Prop := ∀ e ∈ db.vers, e.2.1 ≤ db.clock

theorem wf_empty : WF ({} : DB V) := by intro e he; cases he

/-- the database after a write set has been committed (`put`: a write set of one) -/
def DB.apply (db : DB V) (ws : List (Key × Option V)) : DB V :=
  { clock := db.clock + 1, vers := ws.map (fun e => (e.1, db.clock + 1, e.2)) ++ db.vers }

theorem wf_apply {db : DB V} (h : WF db) (ws : List (Key × Option V)) : WF (db.apply ws) := by
  intro e he
  rcases List.mem_append.1 he with he | he
  · obtain ⟨w, _, rfl⟩ := List.mem_map.1 he
    exact Nat.le_refl _
  · exact Nat.le_succ_of_le (h e he)

theorem wf_put {db : DB V} (h : WF db) (k : Key) (v : Option V) : WF (db.put k v) := wf_apply h [(k, v)]

theorem wf_putAll {db : DB V} (h : WF db) (os : List (Key × Option V)) : WF (db.putAll os) := by
  induction os generalizing db with
  | nil => exact h
  | cons o r ih => exact ih (wf_put h o.1 o.2)

theorem find?_congr {α} {p q : α → Bool} {l : List α} (h : ∀ x ∈ l, p x = q x) : l.find? p = l.find? q := by
  induction l with
  | nil => rfl
  | cons a r ih =>
    simp only [List.find?_cons, h a (List.mem_cons_self ..)]
    rw [ih (fun x hx => h x (List.mem_cons_of_mem _ hx))]

theorem getAt_eq_newest {db : DB V} (h : WF db) {ts : Nat} (hts : db.clock ≤ ts) (k : Key) :
    db.getAt ts k = (db.vers.find? (fun e => e.1 == k)).bind (·.2.2) := by
  unfold DB.getAt
  rw [find?_congr (q := fun e => e.1 == k) fun e he => by simp [Nat.le_trans (h e he) hts]]
  cases db.vers.find? (fun e => e.1 == k) <;> rfl

theorem getAt_of_le {db : DB V} (h : WF db) {ts : Nat} (hts : db.clock ≤ ts) (k : Key) :
    db.getAt ts k = db.get k := by
  rw [DB.get, getAt_eq_newest h hts, getAt_eq_newest h (Nat.le_refl _)]

theorem get_apply {db : DB V} (h : WF db) (ws : List (Key × Option V)) (k : Key) :
    (db.apply ws).get k = match ws.find? (fun e => e.1 == k) with
      | some e => e.2
      | none => db.get k := by
  rw [DB.get, DB.get, getAt_eq_newest (wf_apply h ws) (Nat.le_refl _), getAt_eq_newest h (Nat.le_refl _)]
  simp only [DB.apply, List.find?_append, List.find?_map]
  rw [show ((fun e : Key × Nat × Option V => e.1 == k) ∘ fun e : Key × Option V => (e.1, db.clock + 1, e.2)) =
    fun e => e.1 == k from rfl]
  cases ws.find? (fun e => e.1 == k) <;> rfl

theorem clock_putAll (db : DB V) (os : List (Key × Option V)) : db.clock ≤ (db.putAll os).clock := by
  induction os generalizing db with
  | nil => exact Nat.le_refl _
  | cons o r ih => exact Nat.le_trans (Nat.le_succ _) (ih (db.put o.1 o.2))

theorem lastTs_le {db : DB V} (h : WF db) (k : Key) : db.lastTs k ≤ db.clock := by
  unfold DB.lastTs
  split
  · next e he => exact h e (List.mem_of_find?_eq_some he)
  · exact Nat.zero_le _

theorem lastTs_put (db : DB V) (k k' : Key) (v : Option V) :
    (db.put k' v).lastTs k = if k' = k then db.clock + 1 else db.lastTs k := by
  by_cases hk : k' = k <;> simp [DB.lastTs, DB.put, hk]

theorem get_putAll_notin {db : DB V} (h : WF db) {k : Key} (os : List (Key × Option V))
    (hk : k ∉ os.map (·.1)) : (db.putAll os).get k = db.get k := by
  induction os generalizing db with
  | nil => rfl
  | cons o r ih =>
    simp only [List.map_cons, List.mem_cons, not_or] at hk
    have hb : (o.1 == k) = false := by simpa using fun e => hk.1 (Eq.symm e)
    rw [DB.putAll, ih (wf_put h o.1 o.2) hk.2, show db.put o.1 o.2 = db.apply [o] from rfl, get_apply h]
    simp [hb]

theorem lastTs_putAll_notin (db : DB V) {k : Key} (os : List (Key × Option V))
    (hk : k ∉ os.map (·.1)) : (db.putAll os).lastTs k = db.lastTs k := by
  induction os generalizing db with
  | nil => rfl
  | cons o r ih =>
    simp only [List.map_cons, List.mem_cons, not_or] at hk
    rw [DB.putAll, ih (db.put o.1 o.2) hk.2, lastTs_put, if_neg fun e => hk.1 e.symm]

theorem lastTs_putAll_mem (db : DB V) {k : Key} (os : List (Key × Option V))
    (hk : k ∈ os.map (·.1)) : db.clock < (db.putAll os).lastTs k := by
  induction os generalizing db with
  | nil => cases hk
  | cons o r ih =>
    rw [DB.putAll]
    by_cases hr : k ∈ r.map (·.1)
    · exact Nat.lt_trans (Nat.lt_succ_self _) (ih (db.put o.1 o.2) hr)
    · have : o.1 = k := by
        rcases List.mem_cons.1 hk with h | h
        · exact h.symm
        · exact absurd h hr
      rw [lastTs_putAll_notin _ r hr, lastTs_put, if_pos this]
      exact Nat.lt_succ_self _

/-! ## commit -/

theorem commit_some {now : DB V} {t : T V} {db' : DB V} (h : commit now t = some db') :
    (∀ k ∈ t.reads, now.lastTs k ≤ t.start) ∧ db' = now.apply t.writes := by
  unfold commit at h
  split at h
  · cases h
  · next hc =>
    refine ⟨fun k hk => ?_, by cases h; rfl⟩
    have := fun hgt => hc (List.any_eq_true.mpr ⟨k, hk, decide_eq_true hgt⟩)
    exact Nat.le_of_not_lt this

theorem commit_alone {db : DB V} (hw : WF db) (t : T V) (hs : t.start = db.clock) :
    commit db t = some (db.apply t.writes) := by
  unfold commit
  rw [if_neg]
  · rfl
  · rw [List.any_eq_true]
    rintro ⟨k, _, hk⟩
    have := lastTs_le hw k
    rw [hs] at hk
    simp only [gt_iff_lt, decide_eq_true_eq] at hk
    exact Nat.lt_irrefl _ (Nat.lt_of_lt_of_le hk this)

theorem not_written_of_commit {db : DB V} {t : T V} {others : List (Key × Option V)} {db' : DB V}
    (hs : t.start = db.clock) (hc : commit (db.putAll others) t = some db') {k : Key}
    (hk : k ∈ t.reads) : k ∉ others.map (·.1) := by
  intro hin
  have h1 := (commit_some hc).1 k hk
  rw [hs] at h1
  exact Nat.lt_irrefl _ (Nat.lt_of_lt_of_le (lastTs_putAll_mem db others hin) h1)

/-! ## Init's transaction -/

theorem seedLoop_shape (db : DB V) (t : T V) (seeds : List (Key × V)) :
    (seedLoop db t seeds).1.start = t.start ∧
    (seedLoop db t seeds).1.reads = (seeds.map (·.1)).reverse ++ t.reads ∧
    ∀ k ∈ (seedLoop db t seeds).1.writes.map (·.1), k ∈ seeds.map (·.1) ∨ k ∈ t.writes.map (·.1) := by
  induction seeds generalizing t with
  | nil => exact ⟨rfl, rfl, fun k hk => .inr hk⟩
  | cons s r ih =>
    obtain ⟨k0, v0⟩ := s
    simp only [seedLoop]
    cases (t.get db k0).2 with
    | some x =>
      obtain ⟨a, b, c⟩ := ih (t.get db k0).1
      refine ⟨a, by rw [b]; simp [T.get], fun k hk => ?_⟩
      exact (c k hk).imp (List.mem_cons_of_mem _) id
    | none =>
      obtain ⟨a, b, c⟩ := ih ((t.get db k0).1.set k0 (some v0))
      refine ⟨a, by rw [b]; simp [T.get, T.set], fun k hk => ?_⟩
      rcases c k hk with h | h
      · exact .inl (List.mem_cons_of_mem _ h)
      · rcases List.mem_cons.1 h with rfl | h
        · exact .inl (List.mem_cons_self ..)
        · exact .inr h

theorem seedLoop_congr (d1 d2 : DB V) (t1 t2 : T V) (seeds : List (Key × V))
    (hw : t1.writes = t2.writes)
    (hr : ∀ k ∈ seeds.map (·.1), d1.getAt t1.start k = d2.getAt t2.start k) :
    (seedLoop d1 t1 seeds).1.writes = (seedLoop d2 t2 seeds).1.writes ∧
    (seedLoop d1 t1 seeds).2 = (seedLoop d2 t2 seeds).2 := by
  induction seeds generalizing t1 t2 with
  | nil => exact ⟨hw, rfl⟩
  | cons s r ih =>
    obtain ⟨k0, v0⟩ := s
    have hv : (t1.get d1 k0).2 = (t2.get d2 k0).2 := by
      simp only [T.get, hw]
      cases t2.writes.find? (fun e => e.1 == k0) with
      | some e => rfl
      | none => exact hr k0 (by simp)
    have hr' : ∀ k ∈ r.map (·.1), d1.getAt t1.start k = d2.getAt t2.start k :=
      fun k hk => hr k (List.mem_cons_of_mem _ hk)
    simp only [seedLoop]
    rw [hv]
    cases (t2.get d2 k0).2 with
    | some x => exact ih (t1.get d1 k0).1 (t2.get d2 k0).1 hw hr'
    | none =>
      obtain ⟨a, b⟩ := ih ((t1.get d1 k0).1.set k0 (some v0)) ((t2.get d2 k0).1.set k0 (some v0))
        (by simp [T.set, T.get, hw]) hr'
      exact ⟨a, by rw [b]⟩

/-- Init's transaction when the seeding loop starts: the marker has been read -/
def initT (db : DB V) (marker : Key) : T V := { start := db.clock, reads := [marker] }

theorem initProg_eq (db : DB V) (marker : Key) (mark : V) (seeds : List (Key × V)) :
    initProg db marker mark seeds =
      if (db.get marker).isSome then none
      else some ((seedLoop db (initT db marker) seeds).1.set marker (some mark),
                 (seedLoop db (initT db marker) seeds).2) := by
  have hm : ((begin db).get db marker) = (initT db marker, db.get marker) := rfl
  unfold initProg
  rw [hm]
  cases db.get marker <;> rfl

theorem initTxn_shape (db : DB V) (marker : Key) (mark : V) (seeds : List (Key × V)) :
    let t := (seedLoop db (initT db marker) seeds).1.set marker (some mark)
    t.start = db.clock ∧ (∀ k ∈ marker :: seeds.map (·.1), k ∈ t.reads) ∧
    ∀ k ∈ t.writes.map (·.1), k ∈ t.reads := by
  obtain ⟨a, b, c⟩ := seedLoop_shape db (initT db marker) seeds
  have hr : ∀ k ∈ marker :: seeds.map (·.1), k ∈ (seedLoop db (initT db marker) seeds).1.reads := by
    intro k hk
    rw [b]
    rcases List.mem_cons.1 hk with rfl | hk
    · simp [initT]
    · simp [hk]
  refine ⟨a, hr, fun k hk => hr k ?_⟩
  rcases List.mem_cons.1 hk with rfl | hk
  · exact List.mem_cons_self ..
  · exact List.mem_cons_of_mem _ ((c k hk).resolve_right (by simp [initT]))

/-! ## what a committed Init leaves behind (refinement to the sequential reading) -/

theorem T.get_get (db : DB V) (t : T V) (k0 k : Key) : ((t.get db k0).1.get db k).2 = (t.get db k).2 := rfl

theorem T.get_set (db : DB V) (t : T V) (k0 k : Key) (v : Option V) :
    ((t.set k0 v).get db k).2 = if k0 = k then v else (t.get db k).2 := by
  by_cases h : k0 = k <;> simp [T.get, T.set, h]

/-- the first seed for an id (`find?`): a repeated seed id is read back from the transaction's own
write and skipped -/
theorem seedLoop_get (db : DB V) (t : T V) (seeds : List (Key × V)) (k : Key) :
    ((seedLoop db t seeds).1.get db k).2 = ((t.get db k).2).or ((seeds.find? (·.1 == k)).map (·.2)) := by
  induction seeds generalizing t with
  | nil => simp [seedLoop]
  | cons s r ih =>
    obtain ⟨k0, v0⟩ := s
    simp only [seedLoop]
    cases h0 : (t.get db k0).2 with
    | some x =>
      rw [ih, T.get_get]
      by_cases hk : k0 = k
      · subst hk; simp [h0]
      · simp [hk]
    | none =>
      rw [ih, T.get_set, T.get_get]
      by_cases hk : k0 = k
      · subst hk; simp [h0]
      · simp [hk]

theorem get_apply_writes {db : DB V} (h : WF db) (t : T V) (hs : t.start = db.clock) (k : Key) :
    (db.apply t.writes).get k = (t.get db k).2 := by
  rw [get_apply h, T.get, hs]; rfl

/-- the right-hand side has the shape of `C12.init_complete`, the statement about the sequential `StoreMap.initOnce`;
no theorem takes a `DB` to a `Disk` -/
theorem initAlone_get (db : DB V) (hw : WF db) (marker : Key) (mark : V) (seeds : List (Key × V))
    (k : Key) (hk : k ≠ marker) :
    (initAlone db marker mark seeds).2.1 = true ∧
    (initAlone db marker mark seeds).1.get k =
      (if (db.get marker).isSome then db.get k
       else match seeds.find? (fun s => s.1 == k) with
         | some s => (match db.get k with | some old => some old | none => some s.2)
         | none => db.get k) ∧
    ((db.get marker).isNone → (initAlone db marker mark seeds).1.get marker = some mark) := by
  unfold initAlone initRun
  simp only [DB.putAll]
  rw [initProg_eq]
  by_cases hmk : (db.get marker).isSome = true
  · rw [if_pos hmk, if_pos hmk]
    exact ⟨rfl, rfl, fun h' => by rw [Option.isNone_iff_eq_none] at h'; rw [h'] at hmk; cases hmk⟩
  · have hs := (initTxn_shape db marker mark seeds).1
    rw [if_neg hmk, if_neg hmk]
    dsimp only
    rw [commit_alone hw _ hs]
    refine ⟨rfl, ?_, fun _ => ?_⟩
    · rw [get_apply_writes hw _ hs, T.get_set, if_neg (Ne.symm hk), seedLoop_get]
      rw [show ((initT db marker).get db k).2 = db.get k from rfl]
      cases seeds.find? (fun s => s.1 == k) <;> cases db.get k <;> rfl
    · rw [get_apply_writes hw _ hs, T.get_set, if_pos rfl]

end GoRes.Txn
