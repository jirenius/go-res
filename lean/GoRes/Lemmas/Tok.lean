import GoRes.Model.Pattern
import GoRes.Lemmas.Assoc
/-! The token-wise specification on its own terms (no byte scanners): `wfPat`, names (`IsLits`,
`isName_iff`), `tokMatches` and `tokValues`.  The properties rest on `tokMatches_map` (reflexivity and instantiation), `_trans`,
`_append`, `tokMatches_distinguish` (a pattern that does not cover another misses one of its
names), `tokValues_subst` and `tokValues_map` (values against substitution, `substTok`).

`tokMatches` and `tokValues` are written with overlapping patterns and a catch-all, so their
compiled equations carry side conditions.  `tokMatches` goes through three equations
(`_nil_left`, `_nil_right`, `_cons_cons`): it is the pointwise lift of the one-token relation
`Tok.covers`, except that a final `>` swallows a non-empty rest.  `tokValues` is no such lift (a
`$tag` or `*` takes any token opposite, `>` included): it has one equation for each kind of
pattern token, and what holds along a successful run of it is proved by `fun_induction`. -/
namespace GoRes.Pattern

@[simp] theorem Tok.render_lit (s : Str) : (Tok.lit s).render = s := rfl
@[simp] theorem Tok.render_tag (n : Str) : (Tok.tag n).render = 36 :: n := rfl
@[simp] theorem Tok.render_star : Tok.star.render = [42] := rfl
@[simp] theorem Tok.render_full : Tok.full.render = [62] := rfl

theorem mapGet_mapSet (m : List (Str × Str)) (k v k' : Str) :
    mapGet (mapSet m k v) k' = if k' = k then some v else mapGet m k' := Assoc.get_set m k k' v

/-! ## well-formed patterns -/

theorem wfPat_cons (t : Tok) (r : List Tok) :
    wfPat (t :: r) = (t.ok && (r.isEmpty || decide (t ≠ .full)) && wfPat r) := by
  cases r <;> simp [wfPat]

theorem wfPat_tail {t : Tok} {r : List Tok} (h : wfPat (t :: r) = true) : wfPat r = true := by
  rw [wfPat_cons] at h; simp at h; exact h.2

theorem wfPat_head {t : Tok} {r : List Tok} (h : wfPat (t :: r) = true) : t.ok = true := by
  rw [wfPat_cons] at h; simp at h; exact h.1.1

theorem wfPat_full {r : List Tok} (h : wfPat (Tok.full :: r) = true) : r = [] := by
  rw [wfPat_cons] at h; simp at h; exact h.1.2

theorem wfPat_all_ok {ts : List Tok} (h : wfPat ts = true) : ∀ t ∈ ts, t.ok = true := by
  induction ts with
  | nil => simp
  | cons t r ih =>
    intro x hx
    rcases List.mem_cons.1 hx with rfl | hx
    · exact wfPat_head h
    · exact ih (wfPat_tail h) x hx

theorem wfPat_of_all {st : List Tok} (h : ∀ n ∈ st, n.ok = true ∧ n ≠ .full) : wfPat st = true := by
  induction st with
  | nil => rfl
  | cons t r ih =>
    obtain ⟨ht, hr⟩ := List.forall_mem_cons.1 h
    rw [wfPat_cons]
    simp [ht.1, ht.2, ih hr]

theorem wfPat_lit_cons {t : Str} {ts : List Tok} (ht : litOk t = true) (hw : wfPat ts = true) :
    wfPat (.lit t :: ts) = true := by
  rw [wfPat_cons]; simp [Tok.ok, ht, hw]

theorem getLast?_cons_eq_full {t : Tok} {r : List Tok} (ht : t ≠ .full) :
    (t :: r).getLast? = some .full ↔ r.getLast? = some .full := by
  cases r with
  | nil => simp [ht]
  | cons y r => rw [List.getLast?_cons_cons]

theorem wfPat_append {ts us : List Tok} (hw : wfPat ts = true) (hl : ts.getLast? ≠ some .full)
    (hu : wfPat us = true) : wfPat (ts ++ us) = true := by
  induction ts with
  | nil => exact hu
  | cons t r ih =>
    have ht : t ≠ .full := by
      rintro rfl
      rw [wfPat_full hw] at hl
      exact hl rfl
    rw [List.cons_append, wfPat_cons]
    simp [wfPat_head hw, ht, ih (wfPat_tail hw) (mt (getLast?_cons_eq_full ht).2 hl)]

theorem tagsOf_append (ts us : List Tok) : tagsOf (ts ++ us) = tagsOf ts ++ tagsOf us := by
  induction ts with
  | nil => rfl
  | cons t r ih => cases t <;> simp [tagsOf, ih]

theorem tagsOf_cons_nil {t : Tok} {r : List Tok} (h : tagsOf (t :: r) = []) :
    (∀ x, t ≠ .tag x) ∧ tagsOf r = [] := by
  cases t <;> simp_all [tagsOf]

theorem distinctTags_tag_cons_iff (x : Str) (ps : List Tok) :
    distinctTags (.tag x :: ps) = true ↔ x ∉ tagsOf ps ∧ distinctTags ps = true := by
  simp [distinctTags]

/-! ## names -/

/-- a name, possibly empty -/
def IsLits (st : List Tok) : Prop := ∀ n ∈ st, ∃ s, n = .lit s ∧ litOk s = true

theorem IsLits.nil : IsLits [] := by intro n hn; simp at hn

theorem IsLits.cons {s : Str} {st : List Tok} (hs : litOk s = true) (h : IsLits st) :
    IsLits (.lit s :: st) := by
  intro n hn
  rcases List.mem_cons.1 hn with rfl | hn
  · exact ⟨s, rfl, hs⟩
  · exact h n hn

theorem IsLits.append {st ut : List Tok} (h : IsLits st) (hu : IsLits ut) : IsLits (st ++ ut) := by
  intro n hn
  rcases List.mem_append.1 hn with hn | hn
  · exact h n hn
  · exact hu n hn

theorem IsLits.ok {st : List Tok} (h : IsLits st) : ∀ n ∈ st, n.ok = true := by
  intro n hn
  obtain ⟨s, rfl, hs⟩ := h n hn
  exact hs

theorem IsLits.ne_full {st : List Tok} (h : IsLits st) : ∀ n ∈ st, n ≠ .full := by
  intro n hn
  obtain ⟨s, rfl, _⟩ := h n hn
  simp

theorem IsLits.wfPat {st : List Tok} (h : IsLits st) : wfPat st = true :=
  wfPat_of_all (fun n hn => ⟨h.ok n hn, h.ne_full n hn⟩)

theorem IsLits.getLast?_ne_full {st : List Tok} (h : IsLits st) : st.getLast? ≠ some .full :=
  fun hl => h.ne_full _ (List.mem_of_getLast? hl) rfl

theorem IsLits.tagsOf {st : List Tok} (h : IsLits st) : tagsOf st = [] := by
  induction st with
  | nil => rfl
  | cons t r ih =>
    obtain ⟨⟨s, rfl, _⟩, hr⟩ := List.forall_mem_cons.1 h
    exact ih hr

theorem isName_iff (st : List Tok) : isName st = true ↔ st ≠ [] ∧ IsLits st := by
  simp only [isName, Bool.and_eq_true, Bool.not_eq_true', List.isEmpty_eq_false_iff,
    List.all_eq_true, IsLits]
  refine and_congr_right fun _ => forall_congr' fun n => imp_congr_right fun _ => ?_
  cases n <;> simp

theorem isName_ne_nil {st : List Tok} (h : isName st = true) : st ≠ [] := ((isName_iff st).1 h).1

theorem isName_isLits {st : List Tok} (h : isName st = true) : IsLits st := ((isName_iff st).1 h).2

theorem isName_of_isLits {st : List Tok} (h : IsLits st) (hne : st ≠ []) : isName st = true :=
  (isName_iff st).2 ⟨hne, h⟩

theorem wfPat_of_isName {st : List Tok} (h : isName st = true) : wfPat st = true :=
  (isName_isLits h).wfPat

theorem isName_append_lit {name : List Tok} {s : Str} (hn : isName name = true) (hs : litOk s = true) :
    isName (name ++ [.lit s]) = true :=
  isName_of_isLits ((isName_isLits hn).append (.cons hs .nil)) (by simp)

/-! ## `tokMatches` -/

/-- one pattern token other than `>` against one token -/
def Tok.covers : Tok → Tok → Bool
  | .lit a, n => .lit a == n
  | _, n => n != .full

theorem Tok.covers_ne_full {t n : Tok} (h : t.covers n = true) : n ≠ .full := by
  rintro rfl; cases t <;> simp [Tok.covers] at h

theorem Tok.covers_refl {t : Tok} (h : t ≠ .full) : t.covers t = true := by
  cases t <;> simp_all [Tok.covers]

theorem Tok.covers_trans {t n s : Tok} (h1 : t.covers n = true) (h2 : n.covers s = true) :
    t.covers s = true := by
  have hs := Tok.covers_ne_full h2
  cases t with
  | lit a => simp only [Tok.covers, beq_iff_eq] at h1; subst h1; exact h2
  | _ => simpa [Tok.covers] using hs

theorem Tok.lit_beq (a b : Str) : (Tok.lit a == Tok.lit b) = (a == b) := by
  rw [Bool.eq_iff_iff]; simp

theorem tokMatches_nil_left (ns : List Tok) : tokMatches [] ns = ns.isEmpty := by
  cases ns <;> rfl

theorem tokMatches_nil_right (ps : List Tok) : tokMatches ps [] = ps.isEmpty := by
  cases ps <;> simp [tokMatches]

theorem tokMatches_cons_cons (t : Tok) (ps : List Tok) (n : Tok) (ns : List Tok) :
    tokMatches (t :: ps) (n :: ns) =
      if t = .full then ps.isEmpty else t.covers n && tokMatches ps ns := by
  cases t with
  | full => cases ps <;> rfl
  | lit a =>
    cases n with
    | lit b => rw [if_neg Tok.noConfusion, Tok.covers, Tok.lit_beq]; rfl
    | _ => rfl
  | tag x => rfl
  | star => rfl

theorem tokMatches_lit_cons (a : Str) (ps ns : List Tok) :
    tokMatches (.lit a :: ps) (.lit a :: ns) = tokMatches ps ns := by
  rw [tokMatches_cons_cons, if_neg Tok.noConfusion, Tok.covers, beq_self_eq_true, Bool.true_and]

theorem tokMatches_cons_cons_iff {t : Tok} {ps : List Tok} {n : Tok} {ns : List Tok} :
    tokMatches (t :: ps) (n :: ns) = true ↔
      (t = .full ∧ ps = []) ∨ (t ≠ .full ∧ t.covers n = true ∧ tokMatches ps ns = true) := by
  rw [tokMatches_cons_cons]
  by_cases ht : t = .full <;> simp [ht]

theorem tokMatches_map (f : Tok → Tok) (hf : ∀ t : Tok, t ≠ .full → t.covers (f t) = true) {ts : List Tok}
    (h : wfPat ts = true) : tokMatches ts (ts.map f) = true := by
  induction ts with
  | nil => rfl
  | cons t r ih =>
    rw [List.map_cons, tokMatches_cons_cons_iff]
    by_cases ht : t = .full
    · subst ht; exact Or.inl ⟨rfl, wfPat_full h⟩
    · exact Or.inr ⟨ht, hf t ht, ih (wfPat_tail h)⟩

theorem tokMatches_refl {ts : List Tok} (h : wfPat ts = true) : tokMatches ts ts = true := by
  simpa using tokMatches_map id (fun _ => Tok.covers_refl) h

theorem tokMatches_trans {pt qt st : List Tok}
    (h1 : tokMatches pt qt = true) (h2 : tokMatches qt st = true) : tokMatches pt st = true := by
  induction pt generalizing qt st with
  | nil => rw [tokMatches_nil_left, List.isEmpty_iff] at h1; rwa [h1] at h2
  | cons t ps ih =>
    cases qt with
    | nil => simp [tokMatches_nil_right] at h1
    | cons n qs =>
      cases st with
      | nil => simp [tokMatches_nil_right] at h2
      | cons s ss =>
        rw [tokMatches_cons_cons_iff] at h1 h2 ⊢
        rcases h1 with h1 | ⟨ht, htn, h1⟩
        · exact Or.inl h1
        · rcases h2 with ⟨hn, _⟩ | ⟨_, hns, h2⟩
          · exact absurd hn (Tok.covers_ne_full htn)
          · exact Or.inr ⟨ht, Tok.covers_trans htn hns, ih h1 h2⟩

/-- both sides of a match extended: a final `>` has taken everything already -/
theorem tokMatches_append {ts name : List Tok} (us more : List Tok) (h : tokMatches ts name = true) :
    tokMatches (ts ++ us) (name ++ more) =
      if ts.getLast? = some .full then us.isEmpty else tokMatches us more := by
  induction ts generalizing name with
  | nil => rw [tokMatches_nil_left, List.isEmpty_iff] at h; rw [h]; rfl
  | cons t r ih =>
    cases name with
    | nil => simp [tokMatches_nil_right] at h
    | cons n ns =>
      rw [List.cons_append, List.cons_append, tokMatches_cons_cons]
      rcases tokMatches_cons_cons_iff.1 h with ⟨rfl, rfl⟩ | ⟨ht, htn, h⟩
      · rfl
      · rw [if_neg ht, htn, Bool.true_and, ih h]
        simp only [getLast?_cons_eq_full ht]

/-! ## `tokValues` -/

theorem tokValues_nil_left (ns : List Tok) (m : List (Str × Str)) :
    tokValues [] ns m = if ns.isEmpty then some m else none := by
  cases ns <;> rfl

theorem tokValues_nil_right (ps : List Tok) (m : List (Str × Str)) :
    tokValues ps [] m = if ps.isEmpty then some m else none := by
  cases ps <;> simp [tokValues]

theorem tokValues_lit_cons (a : Str) (ps : List Tok) (n : Tok) (ns : List Tok) (m : List (Str × Str)) :
    tokValues (.lit a :: ps) (n :: ns) m = if .lit a = n then tokValues ps ns m else none := by
  cases n <;> simp [tokValues]

theorem tokValues_tag_cons (x : Str) (ps : List Tok) (n : Tok) (ns : List Tok) (m : List (Str × Str)) :
    tokValues (.tag x :: ps) (n :: ns) m = tokValues ps ns (mapSet m x n.render) := rfl

theorem tokValues_star_cons (ps : List Tok) (n : Tok) (ns : List Tok) (m : List (Str × Str)) :
    tokValues (.star :: ps) (n :: ns) m = tokValues ps ns m := rfl

theorem tokValues_full_cons (ps : List Tok) (n : Tok) (ns : List Tok) (m : List (Str × Str)) :
    tokValues (.full :: ps) (n :: ns) m = if ps.isEmpty then some m else none := by
  cases ps <;> simp [tokValues]

/- `fun_induction tokValues` has the clauses in order: both lists empty, `>`, equal literals,
different literals, `$tag`, `*`, and the pairs no clause takes. -/

theorem tokMatches_eq_tokValues_isSome (pt st : List Tok) (m : List (Str × Str))
    (hs : ∀ n ∈ st, n ≠ .full) : tokMatches pt st = (tokValues pt st m).isSome := by
  fun_induction tokValues pt st m with
  | case1 | case2 => rfl
  | case3 ps b ns m ih => rw [tokMatches_lit_cons, ih (List.forall_mem_cons.1 hs).2]
  | case4 a ps b ns m hab => simp [tokMatches, hab]
  | case5 x ps n ns m ih | case6 ps n ns m ih =>
    obtain ⟨hn, hs⟩ := List.forall_mem_cons.1 hs
    simp [tokMatches, hn, ih hs]
  | case7 => simp [tokMatches, *]

theorem tokValues_keeps {pt st : List Tok} {m0 m : List (Str × Str)} {k : Str}
    (h : tokValues pt st m0 = some m) (hk : k ∉ tagsOf pt) : mapGet m k = mapGet m0 k := by
  fun_induction tokValues pt st m0 with
  | case1 | case2 => cases h; rfl
  | case3 _ _ _ _ ih | case6 _ _ _ _ ih => exact ih h hk
  | case4 | case7 => cases h
  | case5 x ps n ns m0 ih =>
    obtain ⟨hx, hk⟩ := not_or.1 (mt List.mem_cons.2 hk)
    rw [ih h hk, mapGet_mapSet, if_neg hx]

/-! ## substitution -/

def substTok (f : Str → Option Str) : Tok → Tok
  | .tag t => match f t with
    | some v => .lit v
    | none => .tag t
  | t => t

theorem tokReplace_eq (f : Str → Option Str) (ts : List Tok) :
    tokReplace f ts = (ts.map (substTok f)).map Tok.render := by
  induction ts with
  | nil => rfl
  | cons t r ih =>
    cases t with
    | tag x => cases h : f x <;> simp [tokReplace, substTok, h, ih]
    | _ => simp [tokReplace, substTok, ih]

theorem substTok_none (f : Str → Option Str) (hf : ∀ t, f t = none) (pt : List Tok) :
    pt.map (substTok f) = pt := by
  induction pt with
  | nil => rfl
  | cons t r ih => cases t <;> simp [substTok, hf, ih]

theorem tokValues_subst {pt st : List Tok} {m0 m : List (Str × Str)}
    (hp : wfPat pt = true) (hs : IsLits st)
    (hd : distinctTags pt = true) (hv : tokValues pt st m0 = some m) :
    wfPat (pt.map (substTok (mapGet m))) = true ∧
      tokMatches (pt.map (substTok (mapGet m))) st = true ∧
      (hasAnon pt = false → pt.map (substTok (mapGet m)) = st) := by
  fun_induction tokValues pt st m0 with
  | case1 => exact ⟨rfl, rfl, fun _ => rfl⟩
  | case2 => exact ⟨rfl, rfl, nofun⟩
  | case4 | case7 => cases hv
  | case3 ps b ns m0 ih =>
    obtain ⟨i1, i2, i3⟩ := ih (wfPat_tail hp) (List.forall_mem_cons.1 hs).2 hd hv
    rw [List.map_cons, wfPat_cons]
    refine ⟨by simp [substTok, wfPat_head hp, i1], (tokMatches_lit_cons b _ ns).trans i2, fun ha => ?_⟩
    rw [i3 ha]; rfl
  | case5 x ps n ns m0 ih =>
    obtain ⟨⟨b, rfl, hb⟩, hs'⟩ := List.forall_mem_cons.1 hs
    obtain ⟨hlater, hd⟩ := (distinctTags_tag_cons_iff x ps).1 hd
    -- no later tag is `x`, so the value bound here is the one found in the end
    have hx : substTok (mapGet m) (.tag x) = .lit b := by
      simp only [substTok, tokValues_keeps hv hlater, mapGet_mapSet]; rfl
    obtain ⟨i1, i2, i3⟩ := ih (wfPat_tail hp) hs' hd hv
    rw [List.map_cons, wfPat_cons, hx]
    refine ⟨by simp [Tok.ok, hb, i1], (tokMatches_lit_cons b _ ns).trans i2, fun ha => ?_⟩
    rw [i3 ha]
  | case6 ps n ns m0 ih =>
    obtain ⟨⟨b, rfl, hb⟩, hs'⟩ := List.forall_mem_cons.1 hs
    obtain ⟨i1, i2, -⟩ := ih (wfPat_tail hp) hs' hd hv
    rw [List.map_cons, wfPat_cons]
    exact ⟨by simp [substTok, Tok.ok, i1], by simp [substTok, tokMatches_cons_cons, Tok.covers, i2], nofun⟩

/-- with `f` the substitution of a value for each tag: `ReplaceTag` then `Values` gives the values back -/
theorem tokValues_map (f : Tok → Tok) (hf : ∀ a, f (.lit a) = .lit a) {pt : List Tok}
    (m0 : List (Str × Str)) (hp : wfPat pt = true) (hd : distinctTags pt = true) :
    ∃ m, tokValues pt (pt.map f) m0 = some m ∧
      ∀ x ∈ tagsOf pt, mapGet m x = some (f (.tag x)).render := by
  induction pt generalizing m0 with
  | nil => exact ⟨m0, rfl, nofun⟩
  | cons t ps ih =>
    have hp' := wfPat_tail hp
    rw [List.map_cons]
    cases t with
    | lit a =>
      rw [hf, tokValues_lit_cons, if_pos rfl]
      exact ih m0 hp' hd
    | tag x =>
      obtain ⟨hx, hd⟩ := (distinctTags_tag_cons_iff x ps).1 hd
      obtain ⟨m, h1, h2⟩ := ih (mapSet m0 x (f (.tag x)).render) hp' hd
      refine ⟨m, h1, fun y hy => ?_⟩
      rcases List.mem_cons.1 hy with rfl | hy
      · rw [tokValues_keeps h1 hx, mapGet_mapSet, if_pos rfl]
      · exact h2 y hy
    | star => exact ih m0 hp' hd
    | full =>
      obtain rfl := wfPat_full hp
      exact ⟨m0, rfl, nofun⟩

/-! ## covering: a pattern that does not match another misses one of its names -/

/-- the simplest name token matched by a pattern token (`[97]` is "a", and `[98]` below "b") -/
def instTok : Tok → Tok
  | .lit a => .lit a
  | _ => .lit [97]

theorem instTok_lit {n : Tok} (hn : n.ok = true) : ∃ s, instTok n = .lit s ∧ litOk s = true := by
  cases n with
  | lit a => exact ⟨a, rfl, hn⟩
  | _ => exact ⟨[97], rfl, by decide⟩

theorem isLits_inst {qt : List Tok} (hq : wfPat qt = true) : IsLits (qt.map instTok) := by
  intro n hn
  obtain ⟨a, ha, rfl⟩ := List.mem_map.1 hn
  exact instTok_lit (wfPat_all_ok hq a ha)

theorem Tok.covers_instTok (n : Tok) (hn : n ≠ .full) : n.covers (instTok n) = true := by
  cases n <;> simp_all [Tok.covers, instTok]

theorem tokMatches_inst {qt : List Tok} (hq : wfPat qt = true) :
    tokMatches qt (qt.map instTok) = true :=
  tokMatches_map instTok Tok.covers_instTok hq

def otherLit (a : Str) : Str := if a = [97] then [98] else [97]

theorem otherLit_ok (a : Str) : litOk (otherLit a) = true := by
  unfold otherLit; split <;> decide

theorem otherLit_ne (a : Str) : a ≠ otherLit a := by
  unfold otherLit; split <;> simp_all

theorem Tok.exists_lit_not_covered {a : Str} {n : Tok} (hn : n.ok = true) (hnf : n ≠ .full)
    (h : (Tok.lit a).covers n = false) :
    ∃ s, litOk s = true ∧ n.covers (.lit s) = true ∧ (Tok.lit a).covers (.lit s) = false := by
  cases n with
  | lit b => exact ⟨b, hn, Tok.covers_refl hnf, h⟩
  | full => exact absurd rfl hnf
  | _ => exact ⟨otherLit a, otherLit_ok a, rfl, by simp [Tok.covers, otherLit_ne a]⟩

/-- no pattern matches every name, the empty one included -/
theorem exists_not_tokMatches (ps : List Tok) : ∃ ss, IsLits ss ∧ tokMatches ps ss = false := by
  cases ps with
  | nil => exact ⟨[.lit [97]], .cons (by decide) .nil, rfl⟩
  | cons p ps => exact ⟨[], .nil, by rw [tokMatches_nil_right]; rfl⟩

theorem tokMatches_distinguish {pt qt : List Tok} (hp : wfPat pt = true) (hq : wfPat qt = true)
    (h : tokMatches pt qt = false) :
    ∃ st, IsLits st ∧ tokMatches qt st = true ∧ tokMatches pt st = false := by
  induction pt generalizing qt with
  | nil =>
    rw [tokMatches_nil_left] at h
    exact ⟨qt.map instTok, isLits_inst hq, tokMatches_inst hq, by rw [tokMatches_nil_left]; simpa using h⟩
  | cons t ps ih =>
    cases qt with
    | nil => exact ⟨[], IsLits.nil, rfl, by rw [tokMatches_nil_right]; rfl⟩
    | cons n qs =>
      have ht : t ≠ .full := by
        rintro rfl
        simp [tokMatches_cons_cons, wfPat_full hp] at h
      rw [tokMatches_cons_cons, if_neg ht] at h
      -- the name is `s :: ss`, on which `t :: ps` is `t.covers s && tokMatches ps ss`
      suffices ∃ s ss, litOk s = true ∧ IsLits ss ∧ tokMatches (n :: qs) (.lit s :: ss) = true ∧
          (t.covers (.lit s) && tokMatches ps ss) = false by
        obtain ⟨s, ss, hs, hss, h1, h2⟩ := this
        exact ⟨_, .cons hs hss, h1, by rw [tokMatches_cons_cons, if_neg ht, h2]⟩
      by_cases hn : n = .full
      · -- `qt` is `>`: it matches every non-empty name
        subst hn
        obtain rfl := wfPat_full hq
        cases t with
        | lit a => exact ⟨otherLit a, [], otherLit_ok a, .nil, rfl, by simp [Tok.covers, otherLit_ne a]⟩
        | full => exact absurd rfl ht
        | _ =>
          obtain ⟨ss, hss, hm⟩ := exists_not_tokMatches ps
          exact ⟨[97], ss, by decide, hss, rfl, by rw [hm, Bool.and_false]⟩
      · have hqs := tokMatches_inst (wfPat_tail hq)
        simp only [tokMatches_cons_cons, if_neg hn]
        cases hps : tokMatches ps qs with
        | false =>
          obtain ⟨ss, l1, l2, l3⟩ := ih (wfPat_tail hp) (wfPat_tail hq) hps
          obtain ⟨s, hs, hsok⟩ := instTok_lit (wfPat_head hq)
          exact ⟨s, ss, hsok, l1, by rw [← hs, Tok.covers_instTok n hn, l2]; rfl, by rw [l3, Bool.and_false]⟩
        | true =>
          rw [hps, Bool.and_true] at h
          cases t with
          | lit a =>
            obtain ⟨s, hs, h1, h2⟩ := Tok.exists_lit_not_covered (wfPat_head hq) hn h
            exact ⟨s, _, hs, isLits_inst (wfPat_tail hq), by rw [h1, hqs]; rfl, by rw [h2]; rfl⟩
          | _ => simp [Tok.covers, hn] at h

end GoRes.Pattern
