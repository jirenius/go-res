import GoRes.Model.Codec
/-! The marshallers fill a fresh zero buffer by two `copy` calls: `copy_prefix_enc` and `closing_brace`
say, over variables, what the buffer then holds, and C18's byte theorems are instances.  Objects are
read only through `member`, a last-wins lookup: computed by `member_cons` / `member_append`, shown
absent by `member_eq_none_iff`.  A proof about `classify` on an object starts from `classify_obj`
(decode the four fields of `valueObject`, then switch), one about `parseResponse` from
`parseResponse_congr` (only three lookups matter, so the other members can be dropped), one about
`Value.Equal` from `equal_iff` (equality of meanings). -/
namespace GoRes.Codec
open GoRes.Json

/-! ## `copyAt` on a buffer split at the offset -/

@[simp] theorem copyAt_nil_src (dst : List Nat) (off : Nat) : copyAt dst off [] = dst := by
  cases dst <;> cases off <;> rfl

@[simp] theorem length_copyAt (dst : List Nat) (off : Nat) (src : List Nat) :
    (copyAt dst off src).length = dst.length := by
  induction dst generalizing off src with
  | nil => cases src <;> simp [copyAt]
  | cons d dst ih => cases src <;> cases off <;> simp [copyAt, ih]

theorem copyAt_append_left (a b src : List Nat) {n : Nat} (hn : n = a.length) :
    copyAt (a ++ b) n src = a ++ copyAt b 0 src := by
  subst hn
  induction a with
  | nil => rfl
  | cons x a ih => cases src <;> simp_all [copyAt]

theorem copyAt_front (b c src : List Nat) (h : src.length = b.length) :
    copyAt (b ++ c) 0 src = src ++ c := by
  induction src generalizing b with
  | nil => cases b <;> simp_all
  | cons s src ih =>
    cases b with
    | nil => simp at h
    | cons y b => simpa [copyAt] using ih b (by simpa using h)

/-- the two `copy` calls the three marshallers share -/
theorem copy_prefix_enc (pre enc : Str) (k : Nat) :
    copyAt (copyAt (List.replicate (enc.length + (pre.length + k)) 0) 0 pre) pre.length enc
      = pre ++ (enc ++ List.replicate k 0) := by
  have : List.replicate (enc.length + (pre.length + k)) 0
      = List.replicate pre.length 0 ++ (List.replicate enc.length 0 ++ List.replicate k 0) := by
    simp [List.replicate_append_replicate]; omega
  rw [this, copyAt_front _ _ pre (by simp), copyAt_append_left _ _ _ rfl, copyAt_front _ _ enc (by simp)]

/-- … followed by `o[len(o)-1] = '}'` (`Ref.MarshalJSON`, `MarshalDataValue`) -/
theorem closing_brace (pre enc : Str) :
    (let o := List.replicate (enc.length + (pre.length + 1)) 0
     let o := copyAt o 0 pre
     let o := copyAt o pre.length enc
     o.set (o.length - 1) 125) = pre ++ enc ++ [125] := by
  simp [copy_prefix_enc, ← List.append_assoc]

theorem drop_replicate_zero (n m : Nat) : (List.replicate (n + m) 0).drop n = List.replicate m (0:Nat) := by
  simp

/-! ## `member`: a lookup in which later duplicates win -/

theorem member_nil (k : Str) : member [] k = none := rfl

theorem member_append (a b : List (Str × J)) (k : Str) :
    member (a ++ b) k = (member b k).or (member a k) := by
  simp only [member, List.filter_append, List.getLast?_append, Option.map_or]

theorem member_cons (e : Str × J) (ms : List (Str × J)) (k : Str) :
    member (e :: ms) k = (member ms k).or (if e.1 = k then some e.2 else none) := by
  rw [← List.singleton_append, member_append]
  by_cases h : e.1 = k <;> simp [member, h]

theorem member_eq_none_iff (ms : List (Str × J)) (k : Str) :
    member ms k = none ↔ ∀ m ∈ ms, m.1 ≠ k := by
  simp [member]

theorem member_eq_none_of_key {ms : List (Str × J)} {k' : Str} (h : ∀ m ∈ ms, m.1 = k') {k : Str}
    (hk : k' ≠ k) : member ms k = none :=
  (member_eq_none_iff ms k).2 fun m hm => by rw [h m hm]; exact hk

theorem member_cons_ne (k' k : Str) (v : J) (ms : List (Str × J)) (h : k' ≠ k) :
    member ((k', v) :: ms) k = member ms k := by
  rw [member_cons, if_neg h, Option.or_none]

theorem member_cons_eq_of_none (k : Str) (v : J) (ms : List (Str × J)) (h : ∀ m ∈ ms, m.1 ≠ k) :
    member ((k, v) :: ms) k = some v := by
  rw [member_cons, (member_eq_none_iff ms k).2 h, if_pos rfl, Option.none_or]

theorem member_single (k : Str) (x : J) : member [(k, x)] k = some x :=
  member_cons_eq_of_none k x [] (fun _ h => nomatch h)

theorem member_single_ne (k' k : Str) (x : J) (h : k' ≠ k) : member [(k', x)] k = none :=
  member_cons_ne k' k x [] h

/-! ## objects through their lookups: four for `classify`, three for `parseResponse` -/

/-- a `*string` field of `valueObject` as `encoding/json` fills it: absent or `null` leaves it nil,
anything but a string is a decode error -/
def optStr : Option J → Option (Option Str)
  | none | some .null => some none
  | some (.str s) => some (some s)
  | _ => none

/-- the `bool` field `Soft` -/
def optBool : Option J → Option Bool
  | none | some .null => some false
  | some (.bool b) => some b
  | _ => none

/-- the `switch` of `Value.UnmarshalJSON` on the decoded fields -/
def ofFields (raw : Str) (rid : Option Str) (soft : Bool) (action : Option Str) (data : Option J) :
    Option Value :=
  match rid with
  | some r =>
    if action.isSome ∨ data.isSome ∨ r.isEmpty then none
    else if !isValidRIDB r then none
    else some ⟨if soft then .softReference else .reference, raw, r, []⟩
  | none =>
    match action with
    | some a => if data.isSome ∨ a ≠ b!"delete" then none else some ⟨.delete, raw, [], []⟩
    | none =>
      match data with
      | some d =>
        match d with
        | .obj _ | .arr _ => some ⟨.data, raw, [], render d⟩
        | _ => some ⟨.primitive, render d, [], render d⟩
      | none => none

/-- an object is looked at only through four lookups; a field that does not decode makes the
whole value invalid whatever the others hold, so a proof about objects splits on the decoded
fields (two or three cases each) and not on the seven shapes of each member -/
theorem classify_obj (ms : List (Str × J)) :
    classify (.obj ms) =
      match optStr (member ms b!"rid"), optBool (member ms b!"soft"), optStr (member ms b!"action") with
      | some rid, some soft, some action =>
        ofFields (render (.obj ms)) rid soft action (member ms b!"data")
      | _, _, _ => none := rfl

theorem parseResponse_congr {ms ms' : List (Str × J)} (he : member ms b!"error" = member ms' b!"error")
    (hr : member ms b!"resource" = member ms' b!"resource")
    (hv : member ms b!"result" = member ms' b!"result") :
    parseResponse (some (.obj ms)) = parseResponse (some (.obj ms')) := by
  rw [parseResponse, parseResponse, he, hr, hv]

theorem equal_iff (v w : Value) : equal v w = true ↔ meaning v = meaning w := by
  unfold equal meaning
  cases v.typ <;> cases w.typ <;> simp

end GoRes.Codec
