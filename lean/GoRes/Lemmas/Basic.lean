import GoRes.Model.Basic
/-! `splitDots` and `joinDots` are inverse to each other: `joinDots_splitDots` on every string,
`splitDots_joinDots` on non-empty lists of dot-free tokens (`NoDot`); a dot cuts the token list in
two whatever stands on either side of it (`splitDots_append_dot`).  Every module that goes between
a dotted string and its tokens (patterns, mux paths, subjects, resource ids) rests on these.
The dot is written `46`, the numeral `Ch.dot` unfolds to, so that no rewrite has to unfold it. -/
namespace GoRes

def NoDot (s : Str) : Prop := ∀ x ∈ s, x ≠ 46

theorem NoDot.nil : NoDot [] := fun _ h => nomatch h
theorem NoDot.head {c : Nat} {s : Str} (h : NoDot (c :: s)) : c ≠ 46 := h c List.mem_cons_self
theorem NoDot.tail {c : Nat} {s : Str} (h : NoDot (c :: s)) : NoDot s :=
  fun x hx => h x (List.mem_cons_of_mem _ hx)

theorem splitDots_ne_nil (r : Str) : splitDots r ≠ [] := by
  fun_cases splitDots r <;> simp

theorem splitDots_exists (r : Str) : ∃ t ts, splitDots r = t :: ts :=
  List.exists_cons_of_ne_nil (splitDots_ne_nil r)

theorem splitDots_dot (r : Str) : splitDots (46 :: r) = [] :: splitDots r := by
  simp [splitDots, Ch.dot]

theorem splitDots_cons {c : Nat} {r t : Str} {ts : List Str} (hc : c ≠ 46)
    (h : splitDots r = t :: ts) : splitDots (c :: r) = (c :: t) :: ts := by
  simp [splitDots, Ch.dot, hc, h]

theorem splitDots_noDot {a : Str} (ha : NoDot a) : splitDots a = [a] := by
  induction a with
  | nil => rfl
  | cons c a ih => exact splitDots_cons ha.head (ih ha.tail)

theorem splitDots_append_dot (a P : Str) : splitDots (a ++ 46 :: P) = splitDots a ++ splitDots P := by
  induction a with
  | nil => exact splitDots_dot P
  | cons c a ih =>
    by_cases hc : c = 46
    · subst hc
      rw [List.cons_append, splitDots_dot, splitDots_dot, ih, List.cons_append]
    · obtain ⟨t, ts, h⟩ := splitDots_exists a
      rw [h, List.cons_append] at ih
      rw [List.cons_append, splitDots_cons hc ih, splitDots_cons hc h, List.cons_append]

theorem joinDots_cons_of_ne (t : Str) {l : List Str} (h : l ≠ []) :
    joinDots (t :: l) = t ++ 46 :: joinDots l := by
  obtain ⟨b, r, rfl⟩ := List.exists_cons_of_ne_nil h
  rfl

theorem joinDots_append {a b : List Str} (ha : a ≠ []) (hb : b ≠ []) :
    joinDots (a ++ b) = joinDots a ++ 46 :: joinDots b := by
  induction a with
  | nil => exact absurd rfl ha
  | cons t r ih =>
    cases r with
    | nil => exact joinDots_cons_of_ne t hb
    | cons y r =>
      rw [List.cons_append, joinDots_cons_of_ne t (by simp), ih (by simp),
        joinDots_cons_of_ne t (by simp), List.append_assoc, List.cons_append]

theorem joinDots_eq_nil_iff {l : List Str} : joinDots l = [] ↔ l = [] ∨ l = [[]] := by
  match l with
  | [] => simp [joinDots]
  | [t] => simp [joinDots]
  | t :: b :: r => simp [joinDots_cons_of_ne t (l := b :: r)]

theorem mem_joinDots {x : Nat} {l : List Str} (h : x ∈ joinDots l) : x = 46 ∨ ∃ t ∈ l, x ∈ t := by
  induction l with
  | nil => nomatch h
  | cons t r ih =>
    cases r with
    | nil => exact Or.inr ⟨t, List.mem_cons_self, h⟩
    | cons y r =>
      rw [joinDots_cons_of_ne t (by simp), List.mem_append, List.mem_cons] at h
      rcases h with h | rfl | h
      · exact Or.inr ⟨t, List.mem_cons_self, h⟩
      · exact Or.inl rfl
      · exact (ih h).imp_right fun ⟨u, hu, hx⟩ => ⟨u, List.mem_cons_of_mem _ hu, hx⟩

theorem joinDots_splitDots (p : Str) : joinDots (splitDots p) = p := by
  induction p with
  | nil => rfl
  | cons c r ih =>
    by_cases hc : c = 46
    · subst hc
      rw [splitDots_dot, joinDots_cons_of_ne _ (splitDots_ne_nil r), ih, List.nil_append]
    · obtain ⟨t, ts, h⟩ := splitDots_exists r
      have hj : joinDots ((c :: t) :: ts) = c :: joinDots (t :: ts) := by cases ts <;> rfl
      rw [splitDots_cons hc h, hj, ← h, ih]

theorem splitDots_joinDots {l : List Str} (hne : l ≠ []) (h : ∀ t ∈ l, NoDot t) :
    splitDots (joinDots l) = l := by
  induction l with
  | nil => exact absurd rfl hne
  | cons t r ih =>
    obtain ⟨ht, hr⟩ := List.forall_mem_cons.1 h
    cases r with
    | nil => exact splitDots_noDot ht
    | cons y r =>
      rw [joinDots_cons_of_ne t (by simp), splitDots_append_dot, splitDots_noDot ht,
        ih (by simp) hr, List.singleton_append]

end GoRes
