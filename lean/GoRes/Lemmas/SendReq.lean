import GoRes.Model.SendReq
/-! `loop` is followed one message at a time.  A message that arrives in time ends the loop
(`loop_response`), restarts the deadline (`loop_extend`) or is skipped (`loop_ignored`); one that
arrives late ends it with a timeout (`loop_late`); the extensions reported so far are only appended
to (`loop_exts`).  Which of the three a message is, `classify` decides: `.response` exactly on
`isResponse` (`classify_of_isResponse`, `classify_response`), `.extend` on the one pre-response C19
speaks of, `timeout:"<digits>"`, on which the two scanners are computed by `tagLookup_timeout` and
`atoi_digits`. -/
namespace GoRes.SendReq
open GoRes

theorem isResponse_cons (c : Nat) (r : Str) :
    isResponse (c :: r) = (decide ((c ||| 32) < 97) || decide ((c ||| 32) > 122)) := rfl

theorem classify_response {d d' : Str} (h : classify d = .response d') :
    d' = d ∧ isResponse d = true := by
  unfold classify at h
  split at h
  · next hr => exact ⟨by injection h with h; exact h.symm, hr⟩
  · split at h
    · split at h <;> cases h
    · cases h

theorem classify_of_isResponse {d : Str} (h : isResponse d = true) : classify d = .response d := by
  unfold classify
  simp [h]

theorem classify_extend_not_response {d : Str} {ms : Int} (h : classify d = .extend ms) :
    isResponse d = false := by
  cases hr : isResponse d
  · rfl
  · rw [classify_of_isResponse hr] at h; cases h

theorem classify_ignored_not_response {d : Str} (h : classify d = .ignored) :
    isResponse d = false := by
  cases hr : isResponse d
  · rfl
  · rw [classify_of_isResponse hr] at h; cases h

theorem loop_nil (dl : Int) (exts : List Int) : loop dl exts [] = (.timeout, exts) := rfl

theorem loop_late (dl : Int) (exts : List Int) (t : Int) (d : Str) (rest : List (Int × Str))
    (h : t ≥ dl) : loop dl exts ((t, d) :: rest) = (.timeout, exts) := by
  simp [loop, h]

theorem loop_response (dl : Int) (exts : List Int) (t : Int) (d : Str) (rest : List (Int × Str))
    (ht : t < dl) (hr : isResponse d = true) :
    loop dl exts ((t, d) :: rest) = (.response d, exts) := by
  have : ¬ t ≥ dl := by omega
  simp [loop, this, classify_of_isResponse hr]

theorem loop_extend (dl : Int) (exts : List Int) (t ms : Int) (d : Str) (rest : List (Int × Str))
    (ht : t < dl) (hc : classify d = .extend ms) :
    loop dl exts ((t, d) :: rest) = loop (t + ms) (exts ++ [ms]) rest := by
  have : ¬ t ≥ dl := by omega
  simp [loop, this, hc]

theorem loop_ignored (dl : Int) (exts : List Int) (t : Int) (d : Str) (rest : List (Int × Str))
    (ht : t < dl) (hc : classify d = .ignored) :
    loop dl exts ((t, d) :: rest) = loop dl exts rest := by
  have : ¬ t ≥ dl := by omega
  simp [loop, this, hc]

theorem loop_exts (dl : Int) (e1 e : List Int) (h : List (Int × Str)) :
    loop dl (e1 ++ e) h = ((loop dl e h).1, e1 ++ (loop dl e h).2) := by
  fun_induction loop dl e h with
  | case1 | case2 | case3 | case5 => simp [loop, *]
  | case4 dl e t d rest ht ms hc ih => simp [loop, ht, hc, ← ih]

theorem loop_fst (dl : Int) (exts : List Int) (h : List (Int × Str)) :
    (loop dl exts h).1 = (loop dl [] h).1 := by
  simpa using congrArg Prod.fst (loop_exts dl exts [] h)

theorem loop_snd (dl : Int) (exts : List Int) (h : List (Int × Str)) :
    (loop dl exts h).2 = exts ++ (loop dl [] h).2 := by
  simpa using congrArg Prod.snd (loop_exts dl exts [] h)

theorem loop_ne_internalError (dl : Int) (exts : List Int) (h : List (Int × Str)) :
    (loop dl exts h).1 ≠ .internalError := by
  fun_induction loop dl exts h with
  | case1 | case2 | case3 => nofun
  | case4 _ _ _ _ _ _ _ _ ih | case5 _ _ _ _ _ _ _ ih => exact ih

theorem tagLookup_timeout (fuel : Nat) (digits : Str) (hd : ∀ c ∈ digits, c ≠ 34 ∧ c ≠ 92) :
    tagLookup b!"timeout" (fuel + 1) (b!"timeout:\"" ++ digits ++ [34]) = some digits := by
  have htw : List.takeWhile (fun c => !decide (c = 34) && !decide (c = 92)) (digits ++ [34]) = digits := by
    rw [List.takeWhile_append_of_pos (by intro a ha; simpa using hd a ha)]
    simp
  simp [tagLookup, htw]

theorem foldl_digits_lt (ds : Str) (hd : ∀ c ∈ ds, c ≤ 57) (acc : Nat) :
    ds.foldl (fun acc c => acc * 10 + (c - 48)) acc < (acc + 1) * 10 ^ ds.length := by
  induction ds generalizing acc with
  | nil => simp
  | cons c r ih =>
    have hc := hd c List.mem_cons_self
    refine Nat.lt_of_lt_of_le (ih (fun x hx => hd x (List.mem_cons_of_mem _ hx)) _) ?_
    rw [List.length_cons, Nat.pow_succ, Nat.mul_comm (10 ^ r.length) 10, ← Nat.mul_assoc]
    exact Nat.mul_le_mul_right _ (by omega : acc * 10 + (c - 48) + 1 ≤ (acc + 1) * 10)

theorem atoi_digits (digits : Str) (hne : digits ≠ []) (hd : ∀ c ∈ digits, 48 ≤ c ∧ c ≤ 57)
    (hlen : digits.length ≤ 18) :
    atoi digits = some ((digits.foldl (fun acc c => acc * 10 + (c - 48)) 0 : Nat) : Int) := by
  -- at most 18 digits stay below `10 ^ 18`, which fits an int64
  have hlt := foldl_digits_lt digits (fun c hc => (hd c hc).2) 0
  have hpow := Nat.pow_le_pow_right (n := 10) (by decide) hlen
  have hn : ¬ digits.foldl (fun acc c => acc * 10 + (c - 48)) 0 > 9223372036854775807 := by omega
  have hall : digits.all (fun c => decide (48 ≤ c ∧ c ≤ 57)) = true :=
    List.all_eq_true.2 fun c hc => by simpa using hd c hc
  cases digits with
  | nil => exact absurd rfl hne
  | cons c r =>
    have hc := hd c List.mem_cons_self
    unfold atoi
    split
    next neg ds heq =>
    -- a digit is not a sign: the string is taken whole, as a non-negative number
    obtain ⟨rfl, rfl⟩ : false = neg ∧ c :: r = ds := by
      split at heq
      · next h => injection h with h; omega
      · next h => injection h with h; omega
      · exact Prod.mk.inj heq
    rw [hall, if_neg (by simp), if_neg hn]
    rfl

end GoRes.SendReq
