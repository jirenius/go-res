import GoRes.Lemmas.PatternParse
/-! The byte scanners of `pattern.go` against the token-wise specification (`IsValid` excepted: it
is in `Lemmas/PatternParse.lean`, with the facts about rendered strings used here).  Each scanner
has one theorem saying what it computes on a rendered token list (`matches_tok`,
`valuesLoop_spec`, `replace_tok`, `indexWildcardLoop_spec`) or on the tokens `splitDots` finds
(`isValidRIDLoop_spec`, `isValidRID_eq`); what is proved from these is token-level
(`Lemmas/Tok.lean`).

The scanners are analysed one token at a time, on a string `token ++ rest` where `rest` is empty
or starts with a dot; those lemmas speak of dot-free strings, not of tokens.  Bytes are written as
numerals: `$` 36, `*` 42, `.` 46, `>` 62, `?` 63. -/
namespace GoRes.Pattern
open Ch

attribute [local simp] Ch.dot Ch.dollar Ch.star Ch.gt Ch.qmark

/-! ## one token and what follows it -/

/-- "rest-shaped": what follows a token in a rendered pattern -/
def IsRest (P : Str) : Prop := P = [] ∨ ∃ P', P = 46 :: P'

theorem skipTok_append {n P : Str} (hn : NoDot n) (hP : IsRest P) : skipTok (n ++ P) = P := by
  induction n with
  | nil =>
    rcases hP with rfl | ⟨P', rfl⟩ <;> simp [skipTok]
  | cons c n ih =>
    have h1 := hn.head
    simp [skipTok, h1, ih hn.tail]

theorem takeTok_append {n P : Str} (hn : NoDot n) (hP : IsRest P) : takeTok (n ++ P) = n := by
  induction n with
  | nil =>
    rcases hP with rfl | ⟨P', rfl⟩ <;> simp [takeTok]
  | cons c n ih =>
    have h1 := hn.head
    simp [takeTok, h1, ih hn.tail]

/-- a token is empty or starts with the byte its string starts with -/
theorem takeTok_cons_inj {c d : Nat} {p s : Str} (h : takeTok (c :: p) = takeTok (d :: s)) :
    c = d := by
  simp only [takeTok] at h
  split at h <;> split at h
  · exact ‹c = dot›.trans ‹d = dot›.symm
  · cases h
  · cases h
  · exact (List.cons.inj h).1

theorem rrest_isRest (ps : List Tok) : IsRest (rrest ps) := by
  cases ps with
  | nil => exact Or.inl rfl
  | cons t r => exact Or.inr ⟨_, rfl⟩

/-! ## Matches -/

theorem matchesLoop_start {c : Nat} (h36 : c ≠ 36) (h42 : c ≠ 42) (p s : Str) :
    matchesLoop true (c :: p) s = matchesLoop false (c :: p) s := by
  cases s with
  | nil => simp [matchesLoop]
  | cons d s => rw [matchesLoop, matchesLoop]; simp [h36, h42]

theorem matchesLoop_nil_right (b : Bool) (p : Str) : matchesLoop b p [] = p.isEmpty := by
  cases p <;> simp [matchesLoop]

/-- inside a token `$` and `*` are compared like any other byte, but the scanner takes `>` for the
wildcard wherever it stands: `a` has to be free of it, and of the dot -/
theorem matchesLoop_lit {a b P S : Str} (ha : ∀ x ∈ a, x ≠ 46 ∧ x ≠ 62) (hb : NoDot b)
    (hP : IsRest P) (hS : IsRest S) :
    matchesLoop false (a ++ P) (b ++ S) = (a == b && matchesLoop false P S) := by
  induction a generalizing b with
  | nil =>
    cases b with
    | nil => simp
    | cons d b =>
      have hd := Ne.symm hb.head
      rcases hP with rfl | ⟨P', rfl⟩ <;> simp [matchesLoop, hd]
  | cons c a ih =>
    obtain ⟨hc, ha⟩ := List.forall_mem_cons.1 ha
    cases b with
    | nil => rcases hS with rfl | ⟨S', rfl⟩ <;> simp [matchesLoop, hc.1, hc.2]
    | cons d b =>
      rw [List.cons_append, List.cons_append, matchesLoop]
      by_cases hcd : c = d
      · subst hcd
        simp [hc.1, hc.2, ih ha hb.tail]
      · simp [hc.2, hcd]

theorem matchesLoop_litTok {s P b S : Str} (hs : litOk s = true) (hP : IsRest P) (hb : NoDot b)
    (hS : IsRest S) :
    matchesLoop true (s ++ P) (b ++ S) = (s == b && matchesLoop false P S) := by
  obtain ⟨c, a, rfl, hc, hs⟩ := litOk_cases hs
  rw [List.cons_append, matchesLoop_start hc.2.1 hc.2.2.1, ← List.cons_append]
  refine matchesLoop_lit (fun x hx => ?_) hb hP hS
  have := (okc_iff x).1 (hs x hx)
  exact ⟨this.2.2.2.1, this.2.2.2.2.2⟩

theorem matchesLoop_wild {c : Nat} (hc : c = 36 ∨ c = 42) {t P b S : Str} (ht : NoDot t)
    (hP : IsRest P) (hb : NoDot b) (hne : b ≠ []) (hS : IsRest S) :
    matchesLoop true (c :: (t ++ P)) (b ++ S) = (b.head? != some 62 && matchesLoop false P S) := by
  cases b with
  | nil => exact absurd rfl hne
  | cons d b =>
    have h2 : skipTok (d :: (b ++ S)) = S := skipTok_append hb hS
    rw [List.cons_append, matchesLoop, skipTok_append ht hP, h2]
    by_cases hd : d = 62 <;> simp [hc, hd]

theorem Tok.head_ne_gt {n : Tok} (h : n.ok = true) : (n.render.head? != some 62) = (n != .full) := by
  rw [Bool.eq_iff_iff, bne_iff_ne, bne_iff_ne]
  exact not_congr ⟨fun hh => (Tok.gt_mem_render h).1 (List.mem_of_mem_head? hh), fun hf => hf ▸ rfl⟩

/-- the induction hypothesis of `matches_tok` carried across the separating dot (`rrest ps` is `[]`
or `'.' :: render ps`); `valuesLoop_rest` and `replaceLoop_rest` do the same for their scanners -/
theorem matchesLoop_rest (ps ns : List Tok)
    (ih : matchesLoop true (render ps) (render ns) = tokMatches ps ns) :
    matchesLoop false (rrest ps) (rrest ns) = tokMatches ps ns := by
  cases ps with
  | nil => rw [rrest_nil, matchesLoop, tokMatches_nil_left]; cases ns <;> rfl
  | cons t r =>
    cases ns with
    | nil => rw [rrest_nil, matchesLoop_nil_right, tokMatches_nil_right]; rfl
    | cons n ns =>
      rw [rrest_cons, rrest_cons, matchesLoop]
      simpa using ih

/-- `wfPat st`, where `valuesLoop_spec` asks only `sOk` of the name's tokens: opposite `$tag` or `*` the scanner takes a token
that begins with `>` for the full wildcard, so it has to be known which tokens do (`Tok.head_ne_gt`) -/
theorem matches_tok (pt st : List Tok) (hp : wfPat pt = true) (hs : wfPat st = true) :
    «matches» (render pt) (render st) = tokMatches pt st := by
  unfold «matches»
  induction pt generalizing st with
  | nil => rw [render_nil, matchesLoop, tokMatches_nil_left, render_isEmpty (wfPat_sOk hs)]
  | cons t ps ih =>
    have htok := wfPat_head hp
    cases st with
    | nil =>
      rw [render_nil, matchesLoop_nil_right, tokMatches_nil_right, render_isEmpty (wfPat_sOk hp)]
    | cons n ns =>
      have hn := wfPat_head hs
      have ⟨hne, hnd⟩ := Tok.ok_sOk hn
      have hrest := matchesLoop_rest ps ns (ih ns (wfPat_tail hp) (wfPat_tail hs))
      rw [render_cons, render_cons, tokMatches_cons_cons]
      cases t with
      | lit a =>
        have e : (a == n.render) = (Tok.lit a == n) := by
          rw [Bool.eq_iff_iff, beq_iff_eq, beq_iff_eq]; exact (Tok.lit_eq_iff_render htok n).symm
        rw [Tok.render_lit, matchesLoop_litTok htok (rrest_isRest ps) hnd (rrest_isRest ns), hrest, e]
        rfl
      | tag x =>
        rw [Tok.render_tag, List.cons_append, matchesLoop_wild (Or.inl rfl) (Tok.ok_sOk htok).2.tail
          (rrest_isRest ps) hnd hne (rrest_isRest ns), hrest, Tok.head_ne_gt hn]
        rfl
      | star =>
        rw [Tok.render_star, List.cons_append, matchesLoop_wild (Or.inr rfl) NoDot.nil
          (rrest_isRest ps) hnd hne (rrest_isRest ns), hrest, Tok.head_ne_gt hn]
        rfl
      | full =>
        obtain rfl := wfPat_full hp
        cases hr : n.render with
        | nil => exact absurd hr hne
        | cons d n' => simp [matchesLoop]

/-! ## Values -/

theorem valuesLoop_nil_right (p : Str) (m : List (Str × Str)) :
    valuesLoop p [] m = if p.isEmpty then some m else none := by
  cases p <;> simp [valuesLoop]

theorem valuesLoop_default {c : Nat} (hc : c ≠ 36 ∧ c ≠ 42 ∧ c ≠ 62) (p : Str) (d : Nat) (s : Str)
    (m : List (Str × Str)) :
    valuesLoop (c :: p) (d :: s) m =
      (valuesLit c p (d :: s)).bind (fun x => valuesLoop x.1 x.2 m) := by
  rw [valuesLoop]
  simp only [dollar, star, gt, hc.1, hc.2.1, hc.2.2, if_false]
  split <;> simp [*]

theorem valuesLit_ne {c d : Nat} (p s : Str) (h : c ≠ d) : valuesLit c p (d :: s) = none := by
  rw [valuesLit.eq_def]; simp [h]

theorem valuesLit_dot (p s : Str) : valuesLit 46 p (46 :: s) = some (p, s) := by
  rw [valuesLit.eq_def]; simp

theorem valuesLit_nil {c : Nat} (s : Str) : valuesLit c [] (c :: s) = some ([], s) := by
  rw [valuesLit.eq_def]; simp

theorem valuesLit_cons {c : Nat} (c' : Nat) (p s : Str) (h : c ≠ 46) :
    valuesLit c (c' :: p) (c :: s) = if s.isEmpty then none else valuesLit c' p s := by
  rw [valuesLit.eq_def]; simp [h]

theorem valuesLoop_dot (P S : Str) (m : List (Str × Str)) :
    valuesLoop (46 :: P) (46 :: S) m = valuesLoop P S m := by
  rw [valuesLoop_default (by decide)]
  simp [valuesLit_dot]

/-- the `default:` arm and what follows it, in the terms of the `$` arm; no assumption on the
strings -/
theorem valuesLit_spec (m : List (Str × Str)) (c : Nat) (p s : Str) :
    (valuesLit c p s).bind (fun x => valuesLoop x.1 x.2 m) =
      if takeTok (c :: p) = takeTok s then valuesLoop (skipTok (c :: p)) (skipTok s) m else none := by
  -- the cases in the order of the definition: the name is exhausted; the bytes differ; both are the dot; the pattern ends
  -- (case4); the name ends; one byte on
  fun_induction valuesLit c p s with
  | case1 p c => by_cases hc : c = 46 <;> simp [takeTok, skipTok, hc, valuesLoop_nil_right]
  | case2 c p d s h => rw [if_neg (mt takeTok_cons_inj h)]; rfl
  | case3 p d s h =>
    obtain rfl : 46 = d := by simpa using h
    simp [takeTok, skipTok, valuesLoop_dot]
  | case4 c d s h hc =>
    -- the name has to end here too
    obtain rfl : c = d := by simpa using h
    cases s with
    | nil => simp [takeTok, skipTok, hc]
    | cons e s => by_cases he : e = 46 <;> simp [takeTok, skipTok, hc, he, valuesLoop]
  | case5 c d s h hc c' r hs =>
    obtain rfl : c = d := by simpa using h
    obtain rfl := List.isEmpty_iff.1 hs
    by_cases hc' : c' = 46 <;> simp [takeTok, skipTok, hc, hc', valuesLoop]
  | case6 c d s h hc c' r hs ih =>
    obtain rfl : c = d := by simpa using h
    rw [ih]
    simp [takeTok.eq_2 c, skipTok.eq_2 c, hc]

theorem valuesLoop_lit {s P b S : Str} (m : List (Str × Str)) (hs : litOk s = true) (hP : IsRest P)
    (hb : NoDot b) (hne : b ≠ []) (hS : IsRest S) :
    valuesLoop (s ++ P) (b ++ S) m = if s = b then valuesLoop P S m else none := by
  obtain ⟨c, a, rfl, hc, hs⟩ := litOk_cases hs
  cases b with
  | nil => exact absurd rfl hne
  | cons d b =>
    rw [List.cons_append, List.cons_append, valuesLoop_default hc.2, valuesLit_spec,
      ← List.cons_append, ← List.cons_append, takeTok_append (noDot_of_okc hs) hP, takeTok_append hb hS,
      skipTok_append (noDot_of_okc hs) hP, skipTok_append hb hS]

theorem valuesLoop_wild {c : Nat} (hc : c = 36 ∨ c = 42) {t P b S : Str} (m : List (Str × Str))
    (ht : NoDot t) (hP : IsRest P) (hb : NoDot b) (hne : b ≠ []) (hS : IsRest S) :
    valuesLoop (c :: (t ++ P)) (b ++ S) m = valuesLoop P S (if c = 36 then mapSet m t b else m) := by
  cases b with
  | nil => exact absurd rfl hne
  | cons d b =>
    have h2 : skipTok (d :: (b ++ S)) = S := skipTok_append hb hS
    have h4 : takeTok (d :: (b ++ S)) = d :: b := takeTok_append hb hS
    rw [List.cons_append, valuesLoop]
    rcases hc with rfl | rfl <;> simp [skipTok_append ht hP, takeTok_append ht hP, h2, h4]

theorem valuesLoop_rest (ps ns : List Tok) (m : List (Str × Str))
    (ih : valuesLoop (render ps) (render ns) m = tokValues ps ns m) :
    valuesLoop (rrest ps) (rrest ns) m = tokValues ps ns m := by
  cases ps with
  | nil => rw [rrest_nil, valuesLoop, tokValues_nil_left]; cases ns <;> rfl
  | cons t r =>
    cases ns with
    | nil => rw [rrest_nil, valuesLoop_nil_right, tokValues_nil_right]; rfl
    | cons n ns =>
      rw [rrest_cons, rrest_cons, valuesLoop_dot]
      exact ih

theorem valuesLoop_spec (pt st : List Tok) (m : List (Str × Str)) (hp : wfPat pt = true)
    (hs : ∀ n ∈ st, n.sOk) :
    valuesLoop (render pt) (render st) m = tokValues pt st m := by
  induction pt generalizing st m with
  | nil => rw [render_nil, valuesLoop, tokValues_nil_left, render_isEmpty hs]
  | cons t ps ih =>
    cases st with
    | nil => rw [render_nil, valuesLoop_nil_right, tokValues_nil_right, render_isEmpty (wfPat_sOk hp)]
    | cons n ns =>
      have htok := wfPat_head hp
      obtain ⟨⟨hne, hnd⟩, hs⟩ := List.forall_mem_cons.1 hs
      have hrest := fun m => valuesLoop_rest ps ns m (ih ns m (wfPat_tail hp) hs)
      rw [render_cons, render_cons]
      cases t with
      | lit s =>
        rw [Tok.render_lit, valuesLoop_lit m htok (rrest_isRest ps) hnd hne (rrest_isRest ns), hrest,
          tokValues_lit_cons]
        simp only [Tok.lit_eq_iff_render htok n]
      | tag x =>
        rw [Tok.render_tag, List.cons_append, valuesLoop_wild (Or.inl rfl) m (Tok.ok_sOk htok).2.tail
          (rrest_isRest ps) hnd hne (rrest_isRest ns), hrest, tokValues_tag_cons]
        rfl
      | star =>
        rw [Tok.render_star, List.cons_append, valuesLoop_wild (Or.inr rfl) m NoDot.nil
          (rrest_isRest ps) hnd hne (rrest_isRest ns), hrest, tokValues_star_cons]
        rfl
      | full =>
        obtain rfl := wfPat_full hp
        cases hr : n.render with
        | nil => exact absurd hr hne
        | cons d n' => simp [valuesLoop, tokValues]

/-! ## Replace -/

theorem replaceLoop_append (f : Str → Option Str) {a : Str} (P : Str) (ha : NoDot a) :
    replaceLoop f false (a ++ P) = a ++ replaceLoop f false P := by
  induction a with
  | nil => rfl
  | cons c a ih =>
    have := ha.head
    rw [List.cons_append, replaceLoop]
    simp [this, ih ha.tail]

theorem replaceLoop_rest (f : Str → Option Str) (b : Bool) (ps : List Tok)
    (ih : replaceLoop f true (render ps) = render (ps.map (substTok f))) :
    replaceLoop f b (rrest ps) = rrest (ps.map (substTok f)) := by
  cases ps with
  | nil => simp [replaceLoop]
  | cons p ps =>
    rw [rrest_cons, replaceLoop, List.map_cons, rrest_cons, ← List.map_cons, ← ih]
    simp

theorem replace_tok (f : Str → Option Str) (pt : List Tok) (hp : wfPat pt = true) :
    replace f (render pt) = render (pt.map (substTok f)) := by
  unfold replace
  induction pt with
  | nil => simp [replaceLoop]
  | cons t ps ih =>
    have htok := wfPat_head hp
    have hrest := fun b => replaceLoop_rest f b ps (ih (wfPat_tail hp))
    rw [List.map_cons, render_cons, render_cons]
    cases t with
    | lit s =>
      obtain ⟨c, a, rfl, hc, hs⟩ := litOk_cases htok
      rw [Tok.render_lit, List.cons_append, replaceLoop]
      simp [hc, replaceLoop_append f _ (noDot_of_okc (List.forall_mem_cons.1 hs).2), hrest, substTok]
    | tag x =>
      have hx : NoDot x := (Tok.ok_sOk htok).2.tail
      rw [Tok.render_tag, List.cons_append, replaceLoop]
      simp only [dollar, if_true, skipTok_append hx (rrest_isRest ps),
        takeTok_append hx (rrest_isRest ps), hrest, substTok]
      cases f x <;> simp
    | star =>
      rw [Tok.render_star, List.cons_append, List.nil_append, replaceLoop]
      simp [hrest, substTok]
    | full =>
      obtain rfl := wfPat_full hp
      simp [replaceLoop, substTok]

/-- `ReplaceTags` returns the pattern as it is on an empty map, where `replace` would find no tag
a value either -/
theorem replaceTags_tok (pt : List Tok) (m : List (Str × Str)) (hp : wfPat pt = true) :
    replaceTags (render pt) m = render (pt.map (substTok (mapGet m))) := by
  unfold replaceTags
  split
  · next hm =>
    obtain rfl := List.isEmpty_iff.1 hm
    rw [substTok_none (mapGet []) (fun _ => rfl)]
  · exact replace_tok _ pt hp

/-! ## IndexWildcard, and paths: valid patterns without a wildcard -/

/-- byte offset of the first wildcard token; `Props.C17.firstWild` is the same function, defined
beside the statement it serves -/
def firstWildL : List Tok → Nat → Int
  | [], _ => -1
  | .lit s :: r, off => firstWildL r (off + s.length + 1)
  | _ :: _, off => off

theorem indexWildcardLoop_append (i : Nat) (a P : Str) (ha : NoDot a) :
    indexWildcardLoop false i (a ++ P) = indexWildcardLoop false (i + a.length) P := by
  induction a generalizing i with
  | nil => rfl
  | cons c a ih =>
    have := ha.head
    rw [List.cons_append, indexWildcardLoop]
    simp [this, ih (i + 1) ha.tail]
    congr 1; omega

theorem indexWildcardLoop_start {c : Nat} (h36 : c ≠ 36) (h42 : c ≠ 42) (h62 : c ≠ 62) (i : Nat) (r : Str) :
    indexWildcardLoop true i (c :: r) = indexWildcardLoop false i (c :: r) := by
  rw [indexWildcardLoop, indexWildcardLoop]; simp [h36, h42, h62]

theorem indexWildcardLoop_spec (pt : List Tok) (i : Nat) (hp : wfPat pt = true) :
    indexWildcardLoop true i (render pt) = firstWildL pt i := by
  induction pt generalizing i with
  | nil => rfl
  | cons t ps ih =>
    have htok := wfPat_head hp
    rw [render_cons]
    cases t with
    | lit s =>
      obtain ⟨c, a, rfl, hc, hs⟩ := litOk_cases htok
      have hrest : ∀ j, indexWildcardLoop false j (rrest ps) = firstWildL ps (j + 1) := by
        intro j
        cases ps with
        | nil => rfl
        | cons p ps => rw [rrest_cons, indexWildcardLoop, if_pos rfl]; exact ih _ (wfPat_tail hp)
      rw [Tok.render_lit, List.cons_append, indexWildcardLoop_start hc.2.1 hc.2.2.1 hc.2.2.2, ← List.cons_append,
        indexWildcardLoop_append _ _ _ (noDot_of_okc hs), hrest, firstWildL]
    | tag x => simp [indexWildcardLoop, firstWildL]
    | star => simp [indexWildcardLoop, firstWildL]
    | full =>
      obtain rfl := wfPat_full hp
      simp [indexWildcardLoop, firstWildL]

theorem firstWildL_eq (ts : List Tok) (off : Nat) :
    (firstWildL ts off == -1) = ts.all (fun t => match t with | .lit _ => true | _ => false) := by
  induction ts generalizing off with
  | nil => rfl
  | cons t r ih =>
    cases t with
    | lit s => exact ih _
    | _ => rfl

theorem isValidPath_eq (p : Str) :
    isValidPath p = (p.isEmpty || match parse p with
      | some ts => ts.all (fun t => match t with | .lit _ => true | _ => false)
      | none => false) := by
  cases p with
  | nil => simp [isValidPath]
  | cons c r =>
    simp only [isValidPath, List.isEmpty_cons, Bool.false_or, isValid_eq_parse]
    cases hp : parse (c :: r) with
    | none => simp
    | some ts =>
      obtain ⟨hw, hr, _⟩ := parse_some (by simp) hp
      have := indexWildcardLoop_spec ts 0 hw
      rw [hr] at this
      simp only [Option.isSome_some, Bool.true_and, indexWildcard, this, firstWildL_eq]

theorem isValidPath_lits {p : Str} (h : isValidPath p = true) (hne : p ≠ []) :
    ∀ t ∈ splitDots p, litOk t = true := by
  rw [isValidPath_eq, List.isEmpty_eq_false_iff.2 hne, Bool.false_or] at h
  cases hp : parse p with
  | none => simp [hp] at h
  | some ts =>
    rw [hp] at h
    obtain ⟨hw, rfl, hts⟩ := parse_some hne hp
    rw [splitDots_render hts (wfPat_sOk hw)]
    intro t ht
    obtain ⟨n, hn, rfl⟩ := List.mem_map.1 ht
    have hl := List.all_eq_true.1 h n hn
    cases n with
    | lit s => exact wfPat_all_ok hw _ hn
    | _ => exact absurd hl Bool.false_ne_true

/-! ## resource ids -/

theorem isValidPart_eq (p : Str) : isValidPart p = (!p.isEmpty && p.all okc) := by
  rw [isValidPart]; congr; funext r; exact (okc_eq_not r).symm

theorem isValidPart_iff (p : Str) : isValidPart p = true ↔ p ≠ [] ∧ ∀ x ∈ p, okc x = true := by
  rw [isValidPart_eq, Bool.and_eq_true, List.all_eq_true, Bool.not_eq_true', List.isEmpty_eq_false_iff]

theorem isValidPart_of_litOk {s : Str} (h : litOk s = true) : isValidPart s = true := by
  obtain ⟨c, a, rfl, -, hs⟩ := litOk_cases h
  exact (isValidPart_iff _).2 ⟨List.cons_ne_nil _ _, hs⟩

theorem isValidRIDLoop_step (b : Bool) (c : Nat) (r : Str) (h63 : c ≠ 63) (h46 : c ≠ 46) :
    isValidRIDLoop b (c :: r) = (okc c && isValidRIDLoop false r) := by
  rw [isValidRIDLoop, if_neg h63, if_neg h46, okc_eq_not]
  simp only [h63, h46, decide_false, Bool.or_false, star, gt]
  cases (decide (c < 33) || decide (c > 126) || decide (c = 42) || decide (c = 62)) <;> rfl

/-- `IsValidRID` in terms of the tokens of the part before the first `?`
(`start = false`: some of the current token has been read) -/
theorem isValidRIDLoop_spec (s : Str) : ∀ t ts, splitDots (s.takeWhile (· ≠ 63)) = t :: ts →
    isValidRIDLoop true s = (isValidPart t && ts.all isValidPart) ∧
    isValidRIDLoop false s = (t.all okc && ts.all isValidPart) := by
  induction s with
  | nil =>
    intro t ts h
    obtain ⟨rfl, rfl⟩ := List.cons.inj h
    exact ⟨rfl, rfl⟩
  | cons c r ih =>
    intro t ts h
    by_cases h63 : c = 63
    · subst h63
      obtain ⟨rfl, rfl⟩ := List.cons.inj h
      exact ⟨rfl, rfl⟩
    · rw [List.takeWhile_cons_of_pos (by simpa using h63)] at h
      obtain ⟨t', ts', h'⟩ := splitDots_exists (r.takeWhile (· ≠ 63))
      obtain ⟨i1, i2⟩ := ih t' ts' h'
      by_cases h46 : c = 46
      · subst h46
        rw [splitDots_dot, h'] at h
        obtain ⟨rfl, rfl⟩ := List.cons.inj h
        simp [isValidRIDLoop, i1, isValidPart_eq]
      · rw [splitDots_cons h46 h'] at h
        obtain ⟨rfl, rfl⟩ := List.cons.inj h
        simp [isValidRIDLoop_step _ c r h63 h46, i2, isValidPart_eq, Bool.and_assoc]

theorem isValidRID_eq (s : Str) :
    isValidRID s = (splitDots (s.takeWhile (· ≠ 63))).all isValidPart := by
  obtain ⟨t, ts, h⟩ := splitDots_exists (s.takeWhile (· ≠ 63))
  rw [h]; exact (isValidRIDLoop_spec s t ts h).1

/-- valid parts contain no `?` -/
theorem isValidRID_of_parts {s : Str} (h : (splitDots s).all isValidPart = true) :
    isValidRID s = true := by
  have h63 : ∀ x ∈ s, (decide (x ≠ 63)) = true := by
    intro x hx
    rw [← joinDots_splitDots s] at hx
    rcases mem_joinDots hx with rfl | ⟨t, ht, hxt⟩
    · rfl
    · have := ((isValidPart_iff t).1 (List.all_eq_true.1 h t ht)).2 x hxt
      exact decide_eq_true ((okc_iff x).1 this).2.2.1
  have hs : s.takeWhile (· ≠ 63) = s := by simpa using List.takeWhile_append_of_pos (l₂ := []) h63
  rw [isValidRID_eq, hs]
  exact h

end GoRes.Pattern
