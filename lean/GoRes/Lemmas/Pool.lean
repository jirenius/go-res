import GoRes.Lemmas.PoolStep
/-! What the worker pool registers, counts and keeps in order, and what C01–C03 read off it; `Lemmas/PoolHB` (C16) goes on from
`Inv`.  Over `Lemmas/PoolStep`, whose head says how the proof of an invariant is laid out.  Live items are counted (`cntQ`,
`cntW`) and pending callbacks listed with their group (`pairsQ`, `pairsW`) for the queue and for the workers apart; `liveW`
reads the workers' items as a queue, so that what is proved of the one holds of the other.

* `Inv`: `rwork` registers exactly the groups that have a live item, and a group has at most one (`Core` for an open queue,
  `Reg` for any); a stopped service is quiet; what has started or is pending was accepted, with multiplicity.  Mutual
  exclusion (C01), `never_twice`, `started_accepted`, `rwork_exact` (C02), `stopped_is_quiet`, `restart` (C03).  A new result
  about a reachable state starts from `Inv.reachable`.
* `view g`, the accepted, started and pending callbacks of group `g`: under `Inv` a step moves it by a `VStep` (`view_step`), so
  what `VStep`s keep holds along a run (`view_run`; a new result about the callbacks of one group starts there).  `Ord` gives
  `order_preserved`, `Fifo` gives `fifo_exact` (C02). -/
namespace GoRes.Pool

/-! ## counting live items, listing pending callbacks -/

def isW (g : Nat) (w : Work) : Bool := w.wid == g
def isWS (g : Nat) (ws : WState) : Bool := wsWid ws == some g
def cntQ (g : Nat) (q : List Work) : Nat := q.countP (isW g)
def cntW (g : Nat) (ws : List WState) : Nat := ws.countP (isWS g)

theorem cnt_eq (g : Nat) (s : St) : cnt g s = cntQ g (s.wq.getD []) + cntW g s.workers := rfl

def wPairs (w : Work) : List (Nat × Nat) := w.pending.map fun c => (w.wid, c)
def pairsQ (q : List Work) : List (Nat × Nat) := q.flatMap wPairs
def wsPairs : WState → List (Nat × Nat)
  | .running w _ => wPairs w
  | _ => []
def pairsW (ws : List WState) : List (Nat × Nat) := ws.flatMap wsPairs

@[simp] theorem cbsOf_nil (g : Nat) : cbsOf g [] = [] := rfl
@[simp] theorem cbsOf_append (g : Nat) (a b : List (Nat × Nat)) : cbsOf g (a ++ b) = cbsOf g a ++ cbsOf g b := by
  simp [cbsOf]
theorem cbsOf_cons (g : Nat) (x : Nat × Nat) (l : List (Nat × Nat)) :
    cbsOf g (x :: l) = (if x.1 = g then [x.2] else []) ++ cbsOf g l := by
  simp only [cbsOf, List.filter_cons]
  by_cases h : x.1 = g <;> simp [h]
theorem cbsOf_single (g a c : Nat) : cbsOf g [(a, c)] = if a = g then [c] else [] := by
  simp [cbsOf_cons]
theorem cbsOf_wPairs (g : Nat) (w : Work) : cbsOf g (wPairs w) = if w.wid = g then w.pending else [] := by
  simp only [cbsOf, wPairs]
  by_cases h : w.wid = g <;> simp [h, List.filter_map, Function.comp_def]

@[simp] theorem pairsQ_nil : pairsQ [] = [] := rfl
@[simp] theorem pairsQ_cons (w : Work) (q : List Work) : pairsQ (w :: q) = wPairs w ++ pairsQ q := by
  simp [pairsQ]
@[simp] theorem pairsQ_append (a b : List Work) : pairsQ (a ++ b) = pairsQ a ++ pairsQ b := by
  simp [pairsQ]
@[simp] theorem pairsW_nil : pairsW [] = [] := rfl
@[simp] theorem pairsW_cons (w : WState) (q : List WState) : pairsW (w :: q) = wsPairs w ++ pairsW q := by
  simp [pairsW]
@[simp] theorem pairsW_append (a b : List WState) : pairsW (a ++ b) = pairsW a ++ pairsW b := by
  simp [pairsW]
@[simp] theorem cntQ_nil (g : Nat) : cntQ g [] = 0 := rfl
@[simp] theorem cntW_nil (g : Nat) : cntW g [] = 0 := rfl
theorem cntQ_cons (g : Nat) (w : Work) (q : List Work) :
    cntQ g (w :: q) = cntQ g q + if w.wid = g then 1 else 0 := by
  simp [cntQ, List.countP_cons, isW]
@[simp] theorem cntQ_append (g : Nat) (a b : List Work) : cntQ g (a ++ b) = cntQ g a + cntQ g b := by
  simp [cntQ, List.countP_append]
theorem cntW_cons (g : Nat) (w : WState) (q : List WState) :
    cntW g (w :: q) = cntW g q + if wsWid w = some g then 1 else 0 := by
  simp [cntW, List.countP_cons, isWS]
@[simp] theorem cntW_append (g : Nat) (a b : List WState) : cntW g (a ++ b) = cntW g a + cntW g b := by
  simp [cntW, List.countP_append]

theorem pendingOf_eq (g : Nat) (s : St) :
    pendingOf g s = cbsOf g (pairsQ (s.wq.getD [])) ++ cbsOf g (pairsW s.workers) := by
  unfold pendingOf
  congr 1
  · generalize s.wq.getD [] = q
    induction q with
    | nil => rfl
    | cons w q ih =>
      simp only [List.filter_cons, pairsQ_cons, cbsOf_append, cbsOf_wPairs]
      by_cases h : w.wid = g <;> simp [h, ih]
  · generalize s.workers = l
    induction l with
    | nil => rfl
    | cons w l ih =>
      simp only [List.flatMap_cons, pairsW_cons, cbsOf_append, ih]
      congr 1
      cases w <;> simp [wsPairs, cbsOf_wPairs]

def wsWork : WState → Option Work
  | .running w _ => some w
  | _ => none

/-- the items owned by running workers: what is proved of the items of a queue holds of them too -/
def liveW (ws : List WState) : List Work := ws.filterMap wsWork

theorem liveW_cons (w : WState) (l : List WState) : liveW (w :: l) = (wsWork w).toList ++ liveW l := by
  cases w <;> rfl

theorem pairsW_eq (ws : List WState) : pairsW ws = pairsQ (liveW ws) := by
  induction ws with
  | nil => rfl
  | cons w l ih => rw [pairsW_cons, liveW_cons, pairsQ_append, ih]; cases w <;> simp [wsWork, wsPairs]

theorem cntW_eq (g : Nat) (ws : List WState) : cntW g ws = cntQ g (liveW ws) := by
  induction ws with
  | nil => rfl
  | cons w l ih => rw [cntW_cons, liveW_cons, cntQ_append, ih]; cases w <;> simp [wsWork, wsWid, cntQ_cons] <;> omega

theorem liveW_map_appendWS (wid cb : Nat) (ws : List WState) :
    liveW (ws.map (appendWS wid cb)) = (liveW ws).map (appendWork wid cb) := by
  induction ws with
  | nil => rfl
  | cons w l ih => rw [List.map_cons, liveW_cons, liveW_cons, List.map_append, ih]; cases w <;> rfl

theorem cbsOf_pairsQ_of_cnt {g : Nat} {q : List Work} (h : cntQ g q = 0) : cbsOf g (pairsQ q) = [] := by
  induction q with
  | nil => rfl
  | cons w q ih =>
    rw [cntQ_cons] at h
    have hw : ¬ w.wid = g := fun e => by simp [e] at h
    simp [cbsOf_wPairs, hw, ih (by omega)]

theorem cbsOf_wsPairs_of_ne {g : Nat} {w : WState} (h : wsWid w ≠ some g) : cbsOf g (wsPairs w) = [] := by
  cases w with
  | running w c => rw [wsPairs, cbsOf_wPairs, if_neg fun e => h (congrArg some e)]
  | _ => rfl

theorem cbsOf_startedOf_of_ne {g : Nat} {w : WState} (h : wsWid w ≠ some g) : cbsOf g (startedOf w) = [] := by
  cases w with
  | running w c => rw [startedOf, cbsOf_single, if_neg fun e => h (congrArg some e)]
  | _ => rfl

theorem cbsOf_pairsW_of_cnt {g : Nat} {q : List WState} (h : cntW g q = 0) : cbsOf g (pairsW q) = [] :=
  pairsW_eq q ▸ cbsOf_pairsQ_of_cnt (cntW_eq g q ▸ h)

theorem wsPairs_of_wsWid_none {w : WState} (h : wsWid w = none) : wsPairs w = [] := by
  cases w <;> simp_all [wsWid, wsPairs]

/-! ## the registration invariant: `Core` for an open queue, `Reg` for any -/

/-- `rw` registers exactly the groups ≠ 0 that have a live item; `ex g` counts the live items of `g`
outside the queue -/
structure Core (q : List Work) (rw : List Nat) (ex : Nat → Nat) : Prop where
  nodup : rw.Nodup
  le : ∀ g, g ≠ 0 → cntQ g q + ex g ≤ 1
  mem : ∀ g, g ≠ 0 → (g ∈ rw ↔ cntQ g q + ex g = 1)

/-- `Core` in one equation -/
theorem Core.count_eq {q : List Work} {rw : List Nat} {ex : Nat → Nat} (h : Core q rw ex) {g : Nat} (hg : g ≠ 0) :
    cntQ g q + ex g = rw.count g := by
  have h1 := h.le g hg
  have h2 := h.mem g hg
  rw [h.nodup.count]
  split
  · next hm => exact h2.mp hm
  · next hm => have : ¬ cntQ g q + ex g = 1 := fun e => hm (h2.mpr e); omega

theorem Core.of_count {q : List Work} {rw : List Nat} {ex : Nat → Nat} (hn : rw.Nodup)
    (hc : ∀ g, g ≠ 0 → cntQ g q + ex g = rw.count g) : Core q rw ex := by
  refine ⟨hn, fun g hg => ?_, fun g hg => ?_⟩
  · rw [hc g hg, hn.count]; split <;> omega
  · rw [hc g hg, hn.count]; split <;> simp [*]

theorem Core.of_eq {q q' : List Work} {rw : List Nat} {ex ex' : Nat → Nat} (h : Core q rw ex)
    (hc : ∀ g, g ≠ 0 → cntQ g q + ex g = cntQ g q' + ex' g) : Core q' rw ex' :=
  ⟨h.nodup, fun g hg => hc g hg ▸ h.le g hg, fun g hg => hc g hg ▸ h.mem g hg⟩

theorem nodup_retire {rw : List Nat} (wid : Nat) (h : rw.Nodup) : (retire wid rw).Nodup := by
  unfold retire; split
  · exact h
  · exact h.erase _

theorem count_retire {rw : List Nat} {wid g : Nat} (hg : g ≠ 0) :
    (retire wid rw).count g = rw.count g - if wid = g then 1 else 0 := by
  unfold retire
  split
  · next h0 => rw [if_neg (h0 ▸ hg.symm)]; rfl
  · rw [List.count_erase]; simp only [beq_iff_eq]

theorem Core.retire {q q' : List Work} {rw : List Nat} {ex ex' : Nat → Nat} (h : Core q rw ex) (wid : Nat)
    (hc : ∀ g, g ≠ 0 → cntQ g q + ex g = cntQ g q' + ex' g + if wid = g then 1 else 0) :
    Core q' (retire wid rw) ex' :=
  .of_count (nodup_retire wid h.nodup) fun g hg => by
    rw [count_retire hg, ← h.count_eq hg, hc g hg, Nat.add_sub_cancel]

theorem Core.register {q q' : List Work} {rw : List Nat} {ex : Nat → Nat} (h : Core q rw ex) {wid : Nat}
    (hn : ¬ (wid ≠ 0 ∧ wid ∈ rw)) (hc : ∀ g, g ≠ 0 → cntQ g q' = cntQ g q + if wid = g then 1 else 0) :
    Core q' (if wid = 0 then rw else wid :: rw) ex := by
  split
  · next h0 => exact h.of_eq fun g hg => by rw [hc g hg, if_neg (h0 ▸ hg.symm), Nat.add_zero]
  · next h0 =>
    refine .of_count (List.nodup_cons.mpr ⟨fun hm => hn ⟨h0, hm⟩, h.nodup⟩) fun g hg => ?_
    rw [hc g hg, List.count_cons, ← h.count_eq hg]
    simp only [beq_iff_eq]; omega

/-- the registration invariant whatever the queue: `Core` while it is open; once it is closed there is
still at most one item per group -/
def Reg : Option (List Work) → List Nat → (Nat → Nat) → Prop
  | some q, rw, ex => Core q rw ex
  | none, _, ex => ∀ g, g ≠ 0 → ex g ≤ 1

theorem Reg.le {wq : Option (List Work)} {rw : List Nat} {ex : Nat → Nat} (h : Reg wq rw ex) (g : Nat) (hg : g ≠ 0) :
    cntQ g (wq.getD []) + ex g ≤ 1 := by
  cases wq with
  | none => simpa using h g hg
  | some q => exact Core.le h g hg

theorem Reg.congr {wq : Option (List Work)} {rw : List Nat} {ex ex' : Nat → Nat} (h : Reg wq rw ex)
    (hc : ∀ g, g ≠ 0 → ex g = ex' g) : Reg wq rw ex' := by
  cases wq with
  | none => exact fun g hg => hc g hg ▸ h g hg
  | some q => exact Core.of_eq h fun g hg => by rw [hc g hg]

theorem Reg.retire {wq : Option (List Work)} {rw : List Nat} {ex ex' : Nat → Nat} (h : Reg wq rw ex) (wid : Nat)
    (hc : ∀ g, g ≠ 0 → ex g = ex' g + if wid = g then 1 else 0) : Reg wq (retire wid rw) ex' := by
  cases wq with
  | none => exact fun g hg => Nat.le_trans (Nat.le_add_right ..) (hc g hg ▸ h g hg)
  | some q => exact Core.retire h wid fun g hg => by rw [hc g hg, Nat.add_assoc]

/-! ## a look at the queue: `takeNext`, `loopTop` -/

theorem takeNext_core {q : List Work} {rw : List Nat} {ex : Nat → Nat} (h : Core q rw ex) :
    Core (takeNext q rw).2.1 (takeNext q rw).2.2
      (fun g => ex g + if wsWid (optState (takeNext q rw).1) = some g then 1 else 0) := by
  fun_induction takeNext q rw with
  | case1 => simpa [optState, wsWid] using h
  | case2 w rest rw f fs =>
    refine h.of_eq fun g hg => ?_
    simp only [optState, wsWid, cntQ_cons, Option.some.injEq]
    omega
  | case3 w rest rw _ ih =>
    refine ih (h.retire w.wid fun g hg => ?_)
    simp only [cntQ_cons]; omega

theorem Reg.loopTop {wq : Option (List Work)} {rw : List Nat} {ex : Nat → Nat} (h : Reg wq rw ex) :
    Reg (loopTop wq rw).2.1 (loopTop wq rw).2.2
      (fun g => ex g + if wsWid (loopTop wq rw).1 = some g then 1 else 0) := by
  cases wq with
  | none => exact fun g hg => by simpa [Pool.loopTop, wsWid] using h g hg
  | some q => rw [loopTop_some]; exact takeNext_core h

theorem takeNext_pairs (q : List Work) (rw : List Nat) :
    pairsQ q = startedOf (optState (takeNext q rw).1) ++ wsPairs (optState (takeNext q rw).1) ++
      pairsQ (takeNext q rw).2.1 := by
  fun_induction takeNext q rw with
  | case1 => rfl
  | case2 w rest rw f fs hp => simp [optState, startedOf, wsPairs, wPairs, hp]
  | case3 w rest rw hp ih => simp [← ih, wPairs, hp]

theorem loopTop_pairs (wq : Option (List Work)) (rw : List Nat) :
    pairsQ (wq.getD []) = (startedOf (loopTop wq rw).1 ++ wsPairs (loopTop wq rw).1) ++
      pairsQ ((loopTop wq rw).2.1.getD []) := by
  cases wq with
  | none => rfl
  | some q => rw [loopTop_some]; exact takeNext_pairs q rw

/-! ## how the transitions change the counts -/

theorem cntW_set {l : List WState} {i : Nat} {old : WState} (h : l[i]? = some old) (g : Nat) (x : WState) :
    cntW g (l.set i x) + (if wsWid old = some g then 1 else 0) = cntW g l + if wsWid x = some g then 1 else 0 := by
  obtain ⟨A, B, hl, hset⟩ := set_split h
  rw [hset x]; rw [hl]
  simp only [cntW_append, cntW_cons]; omega

theorem cntW_beside {g : Nat} {A B : List WState} {x : WState} (hx : wsWid x = some g)
    (h : cntW g (A ++ x :: B) ≤ 1) : cntW g A = 0 ∧ cntW g B = 0 := by
  simp only [cntW_append, cntW_cons, hx, if_true] at h
  omega

theorem countP_pairsW_set {l : List WState} {i : Nat} {old : WState} (h : l[i]? = some old)
    (p : Nat × Nat → Bool) (x : WState) :
    (pairsW (l.set i x)).countP p + (wsPairs old).countP p = (pairsW l).countP p + (wsPairs x).countP p :=
  countP_flatMap_set h p x

theorem pairsW_set_of_nil {l : List WState} {i : Nat} {old x : WState} (h : l[i]? = some old)
    (ho : wsPairs old = []) (hx : wsPairs x = []) : pairsW (l.set i x) = pairsW l :=
  flatMap_set_of_nil h ho hx

@[simp] theorem appendWork_wid (wid cb : Nat) (w : Work) : (appendWork wid cb w).wid = w.wid := by
  unfold appendWork; split <;> rfl

@[simp] theorem wsWid_appendWS (wid cb : Nat) (w : WState) : wsWid (appendWS wid cb w) = wsWid w := by
  cases w <;> simp [appendWS, wsWid]

@[simp] theorem cntQ_map_appendWork (g wid cb : Nat) (q : List Work) :
    cntQ g (q.map (appendWork wid cb)) = cntQ g q := by
  rw [cntQ, List.countP_map]; exact List.countP_congr fun w _ => by simp [isW]

@[simp] theorem cntW_map_appendWS (g wid cb : Nat) (q : List WState) :
    cntW g (q.map (appendWS wid cb)) = cntW g q := by
  rw [cntW_eq, cntW_eq, liveW_map_appendWS, cntQ_map_appendWork]

theorem wPairs_appendWork (wid cb : Nat) (w : Work) :
    wPairs (appendWork wid cb w) = wPairs w ++ if w.wid = wid then [(wid, cb)] else [] := by
  unfold appendWork
  split
  · next h => simp [wPairs, h]
  · next h => simp

theorem countP_pairsQ_appendWork (p : Nat × Nat → Bool) (wid cb : Nat) (q : List Work) :
    (pairsQ (q.map (appendWork wid cb))).countP p = (pairsQ q).countP p + if p (wid, cb) then cntQ wid q else 0 := by
  induction q with
  | nil => simp
  | cons w q ih =>
    simp only [List.map_cons, pairsQ_cons, List.countP_append, ih, wPairs_appendWork, cntQ_cons]
    by_cases hw : w.wid = wid <;> by_cases hp : p (wid, cb) = true <;> simp [hw, hp] <;> omega

theorem countP_pairsW_appendWS (p : Nat × Nat → Bool) (wid cb : Nat) (q : List WState) :
    (pairsW (q.map (appendWS wid cb))).countP p = (pairsW q).countP p + if p (wid, cb) then cntW wid q else 0 := by
  rw [pairsW_eq, pairsW_eq, cntW_eq, liveW_map_appendWS, countP_pairsQ_appendWork]

theorem cbsOf_pairsQ_appendWork (g : Nat) {wid : Nat} (cb : Nat) {q : List Work} (h : cntQ wid q ≤ 1) :
    cbsOf g (pairsQ (q.map (appendWork wid cb))) =
      cbsOf g (pairsQ q) ++ if g = wid ∧ cntQ wid q = 1 then [cb] else [] := by
  induction q with
  | nil => simp
  | cons w q ih =>
    rw [cntQ_cons] at h
    simp only [List.map_cons, pairsQ_cons, cbsOf_append, wPairs_appendWork, cntQ_cons, ih (by omega),
      List.append_assoc]
    by_cases hw : w.wid = wid
    · -- the item of `wid`: no other one follows, so `cb` comes last among the callbacks of `wid`
      have h0 : cntQ wid q = 0 := by simpa [hw] using h
      by_cases hg : g = wid
      · subst hg; simp [hw, h0, cbsOf_single, cbsOf_pairsQ_of_cnt h0]
      · simp [hw, h0, hg, cbsOf_single, Ne.symm hg]
    · simp [hw]

@[simp] theorem wsWid_bcast (w : WState) : wsWid (bcast w) = wsWid w := by cases w <;> rfl
@[simp] theorem wsPairs_bcast (w : WState) : wsPairs (bcast w) = wsPairs w := by cases w <;> rfl

@[simp] theorem cntW_map_bcast (g : Nat) (q : List WState) : cntW g (q.map bcast) = cntW g q := by
  rw [cntW, List.countP_map]; exact List.countP_congr fun w _ => by simp [isWS]

@[simp] theorem pairsW_map_bcast (q : List WState) : pairsW (q.map bcast) = pairsW q := by
  simp [pairsW, List.flatMap_map]

@[simp] theorem cntW_replicate_idle (g n : Nat) : cntW g (List.replicate n .idle) = 0 := by
  simp [cntW, List.countP_replicate, isWS, wsWid]

@[simp] theorem pairsW_replicate_idle (n : Nat) : pairsW (List.replicate n .idle) = [] := by
  simp [pairsW, List.flatMap_replicate, wsPairs]

/-! ## the inductive invariant `Inv` -/

structure Inv (s : St) : Prop where
  core : ∀ q, s.wq = some q → Core q s.rwork (fun g => cntW g s.workers)
  closed : s.wq = none → ∀ g, g ≠ 0 → cntW g s.workers ≤ 1
  quiet : s.phase = .stopped → s.wq = none ∧ s.workers.all (· = .exited) = true
  /-- every started or pending callback was accepted, with multiplicity; over every `p`, since it is read at one callback id
  (`started_nodup`) and at one pair (`C02.started_accepted`) -/
  count : ∀ p : Nat × Nat → Bool,
    s.started.countP p + (pairsQ (s.wq.getD [])).countP p + (pairsW s.workers).countP p ≤ s.accepted.countP p

/-- the fields `core` and `closed` are `Reg` written out by the cases of `s.wq`; proofs read them through `reg` and build `Inv`
through `of_reg`, so that a step is argued once, whether the queue is open or closed -/
theorem Inv.reg {s : St} (h : Inv s) : Reg s.wq s.rwork fun g => cntW g s.workers := by
  cases hq : s.wq with
  | none => exact h.closed hq
  | some q => exact h.core q hq

theorem Inv.of_reg {s : St} (hr : Reg s.wq s.rwork fun g => cntW g s.workers)
    (hq : s.phase = .stopped → s.wq = none ∧ s.workers.all (· = .exited) = true)
    (hc : ∀ p : Nat × Nat → Bool,
      s.started.countP p + (pairsQ (s.wq.getD [])).countP p + (pairsW s.workers).countP p ≤ s.accepted.countP p) :
    Inv s :=
  ⟨fun q e => by rw [e] at hr; exact hr, fun e => by rw [e] at hr; exact hr, hq, hc⟩

theorem Inv.le {s : St} (h : Inv s) (g : Nat) (hg : g ≠ 0) : cntQ g (s.wq.getD []) + cntW g s.workers ≤ 1 :=
  h.reg.le g hg

theorem Inv.mem_rwork_iff {s : St} (h : Inv s) (hq : s.wq.isSome) {g : Nat} (hg : g ≠ 0) : g ∈ s.rwork ↔ cnt g s = 1 := by
  obtain ⟨q, hq⟩ := Option.isSome_iff_exists.mp hq
  rw [cnt_eq, hq]
  exact (h.core q hq).mem g hg

theorem Inv.init : Inv init :=
  ⟨fun q hq => (by cases hq), fun _ g _ => (by simp [Pool.init]), fun _ => ⟨rfl, rfl⟩, fun p => by simp [Pool.init]⟩

theorem Inv.inflight {s : St} (h : Inv s) (l : List Sub) : Inv { s with inflight := l } :=
  ⟨h.core, h.closed, h.quiet, h.count⟩

theorem Inv.serve {s : St} (h : Inv s) (n : Nat) : Inv (served s n) := by
  refine .of_reg (Core.of_count List.nodup_nil fun g _ => by simp [served]) (fun hp => by cases hp) fun p => ?_
  · have := h.count p
    simp only [served, Option.getD_some, pairsQ_nil, pairsW_replicate_idle, List.countP_nil]
    omega

theorem Inv.shutdownCas {s : St} (h : Inv s) : Inv { s with phase := .stopping } :=
  ⟨h.core, h.closed, fun hp => (by cases hp), h.count⟩

theorem Inv.shutdownDone {s : St} (h : Inv s) (hq : s.wq = none) (hw : s.workers.all (· = .exited) = true) :
    Inv { s with phase := .stopped } :=
  ⟨h.core, h.closed, fun _ => ⟨hq, hw⟩, h.count⟩

theorem Inv.closeLock {s : St} (h : Inv s) (hp : s.phase = .stopping) : Inv { s with wq := none } := by
  refine .of_reg (fun g hg => ?_) (fun hp' => ?_) fun p => ?_
  · have := h.le g hg; show cntW g s.workers ≤ 1; omega
  · cases hp.symm.trans hp'
  · have := h.count p
    simp only [Option.getD_none, pairsQ_nil, List.countP_nil]
    omega

theorem Inv.broadcast {s : St} (h : Inv s) (hp : s.phase = .stopping) : Inv (broadcast s) := by
  rw [broadcast_eq]
  refine .of_reg (h.reg.congr fun g _ => (cntW_map_bcast g _).symm) (fun hp' => ?_) fun p => ?_
  · cases hp.symm.trans hp'
  · simpa using h.count p

theorem Inv.signal {s : St} (h : Inv s) (l : List Sub) {i : Nat} (hi : s.workers[i]? = some (.waiting false)) :
    Inv { s with inflight := l, workers := s.workers.set i (.waiting true) } := by
  refine .of_reg (h.reg.congr fun g _ => ?_) (fun hp' => ?_) fun p => ?_
  · have := cntW_set hi g (.waiting true); simpa [wsWid] using this.symm
  · cases all_exited_getElem? (h.quiet hp').2 hi
  · simpa only [pairsW_set_of_nil (x := .waiting true) hi rfl rfl] using h.count p

theorem Inv.subAppend {s : St} (h : Inv s) {q : List Work} (hq : s.wq = some q) {wid : Nat} (h0 : wid ≠ 0)
    (hm : wid ∈ s.rwork) (cb : Nat) (l : List Sub) : Inv (subAppend s q wid cb l) := by
  have hc := h.core q hq
  refine .of_reg (hc.of_eq fun g _ => by simp [Pool.subAppend]) (fun hp' => ?_) fun p => ?_
  · cases hq.symm.trans (h.quiet hp').1
  · have h1 := h.count p
    have h2 := (hc.mem wid h0).mp hm
    simp only [hq, Option.getD_some] at h1
    simp only [Pool.subAppend, Option.getD_some, countP_pairsQ_appendWork, countP_pairsW_appendWS,
      List.countP_append, List.countP_cons, List.countP_nil]
    -- where `p (wid, cb)`, the accepted ones rise by one and so do the pending ones: `wid` has one live item (`h2`),
    -- which gains `cb`
    split <;> omega

theorem Inv.subNew {s : St} (h : Inv s) {q : List Work} (hq : s.wq = some q) {wid : Nat}
    (hn : ¬ (wid ≠ 0 ∧ wid ∈ s.rwork)) (cb : Nat) (l : List Sub) : Inv (subNew s q wid cb l) := by
  refine .of_reg ((h.core q hq).register hn fun g _ => by simp [cntQ_cons]) (fun hp' => ?_) fun p => ?_
  · cases hq.symm.trans (h.quiet hp').1
  · have h1 := h.count p
    simp only [hq, Option.getD_some] at h1
    simp only [Pool.subNew, Option.getD_some, pairsQ_append, pairsQ_cons, pairsQ_nil, wPairs,
      List.countP_append, List.countP_cons, List.countP_nil, List.map_cons, List.map_nil, List.append_nil]
    omega

/-- a locked section of worker `i`: it takes the callbacks `T` from the head of the queue, leaving `wq'`
registered in `rw'`, and ends in state `x`; what it starts and holds is what it took or held before -/
theorem Inv.setWorker {s : St} (h : Inv s) {i : Nat} {old x : WState} {wq' : Option (List Work)} {rw' : List Nat}
    {T : List (Nat × Nat)} (hi : s.workers[i]? = some old) (hne : old ≠ .exited)
    (hreg : Reg wq' rw' fun g => cntW g (s.workers.set i x))
    (hq : pairsQ (s.wq.getD []) = T ++ pairsQ (wq'.getD [])) (hx : T ++ wsPairs old = startedOf x ++ wsPairs x) :
    Inv (setWorker s i x wq' rw') :=
  .of_reg hreg (fun hp => absurd (all_exited_getElem? (h.quiet hp).2 hi) hne) fun p => by
    have h1 := h.count p
    have h2 := countP_pairsW_set hi p x
    have h3 := congrArg (List.countP p) hx
    simp only [hq, List.countP_append] at h1 h3
    simp only [setWorker_started, setWorker_wq, setWorker_workers, setWorker_accepted, List.countP_append]
    omega

theorem Inv.relook {s : St} (h : Inv s) {i : Nat} {old : WState} (hi : s.workers[i]? = some old)
    (ho : wsWid old = none) (hne : old ≠ .exited) : Inv (relook s i) := by
  refine h.setWorker hi hne (h.reg.loopTop.congr fun g _ => ?_) (loopTop_pairs s.wq s.rwork)
    (by rw [wsPairs_of_wsWid_none ho, List.append_nil])
  have := cntW_set hi g (loopTop s.wq s.rwork).1
  simp only [ho, reduceCtorEq, if_false] at this
  omega

theorem Inv.finish {s : St} (h : Inv s) {i : Nat} {w : Work} {cb : Nat}
    (hi : s.workers[i]? = some (.running w cb)) (hp : w.pending = []) : Inv (finish s i w cb) := by
  refine .of_reg (h.reg.retire w.wid fun g _ => ?_) (fun hp' => ?_) fun p => ?_
  · have := cntW_set hi g .idle; simpa [wsWid, Pool.finish] using this.symm
  · cases all_exited_getElem? (h.quiet hp').2 hi
  · have hw : wsPairs (.running w cb) = [] := by simp [wsPairs, wPairs, hp]
    simpa only [Pool.finish, pairsW_set_of_nil (x := .idle) hi hw rfl] using h.count p

theorem Inv.next {s : St} (h : Inv s) {i : Nat} {w : Work} {cb f : Nat} {fs : List Nat}
    (hi : s.workers[i]? = some (.running w cb)) (hp : w.pending = f :: fs) : Inv (next s i w cb f fs) := by
  have h' : Inv { s with finished := s.finished ++ [cb] } := ⟨h.core, h.closed, h.quiet, h.count⟩
  refine h'.setWorker (T := []) hi (by simp) (h.reg.congr fun g _ => ?_) rfl (by simp [startedOf, wsPairs, wPairs, hp])
  have := cntW_set hi g (.running { w with pending := fs } f); simpa [wsWid] using this.symm

theorem Inv.step {s s' : St} {a : Act} (h : Inv s) (hs : Step s a s') : Inv s' := by
  cases hs with
  | serve n => exact h.serve n
  | checkFail => exact h
  | checkPass | lockClosed | signalNone => exact h.inflight _
  | lockAppend _ hq h0 hm => exact h.subAppend hq h0 hm _ _
  | lockNew _ hq hn => exact h.subNew hq hn _ _
  | signalSome _ hi => exact h.signal _ (waiter_of_find hi)
  | wStart _ hi | wWake _ hi | wSpurious _ hi => exact h.relook hi rfl (by simp)
  | doneNext _ hi hp => exact h.next hi hp
  | doneLast _ hi hp => exact (h.finish hi hp).relook (finish_getElem? hi) rfl (by simp)
  | shutdownCas => exact h.shutdownCas
  | closeLock hp _ => exact h.closeLock hp
  | closeBroadcast hp _ => exact h.broadcast hp
  | shutdownDone _ hq hw => exact h.shutdownDone hq hw

theorem Inv.reachable {acts : List Act} {s : St} (hr : Pool.run Pool.init acts = some s) : Inv s :=
  run_induction (A := fun _ => True) (fun _ h hs => h.step hs) (fun _ _ => trivial) Inv.init hr

/-! ## read off `Inv`: never twice, mutual exclusion -/

theorem started_nodup {s : St} (hI : Inv s) (hd : (s.accepted.map (·.2)).Nodup) : (s.started.map (·.2)).Nodup := by
  rw [List.nodup_iff_count] at hd ⊢
  intro c
  have h1 := hd c
  have h2 := hI.count (fun x => x.2 == c)
  simp only [List.count_eq_countP, List.countP_map, Function.comp_def] at h1 ⊢
  omega

theorem countP_startedOf (g : Nat) (l : List WState) : (l.flatMap startedOf).countP (·.1 == g) = cntW g l := by
  induction l with
  | nil => rfl
  | cons w l ih => rw [List.flatMap_cons, List.countP_append, ih, cntW_cons]; cases w <;> simp [startedOf, wsWid] <;> omega

theorem nodup_runningWids {l : List WState} (h : ∀ g, g ≠ 0 → cntW g l ≤ 1) :
    (((l.flatMap startedOf).filter (·.1 != 0)).map (·.1)).Nodup := by
  rw [List.nodup_iff_count]
  intro g
  rw [List.count_eq_countP, List.countP_map, List.countP_filter]
  by_cases hg : g = 0
  · exact Nat.le_trans (Nat.le_of_eq (List.countP_eq_zero.mpr fun x _ => by simp [hg])) (Nat.zero_le 1)
  · exact Nat.le_trans (List.countP_mono_left fun x _ => by simp; exact fun e _ => e) (countP_startedOf g l ▸ h g hg)

/-! ## what a transition does to one group: `view`, `VStep` -/

/-- the effect of a transition on the callbacks of one group, as (accepted, started, pending);
`d` says whether dropping the pending ones is allowed (`closeLock` only) -/
inductive VStep (d : Prop) : List Nat × List Nat × List Nat → List Nat × List Nat × List Nat → Prop
  | same (v) : VStep d v v
  | accept (a st p c) : VStep d (a, st, p) (a ++ [c], st, p ++ [c])
  | start (a st p f) : VStep d (a, st, f :: p) (a, st ++ [f], p)
  | drop (a st p) : d → VStep d (a, st, p) (a, st, [])

theorem VStep.mono {d d' : Prop} {v v'} (h : VStep d v v') (hd : d → d') : VStep d' v v' := by
  cases h with
  | same => exact .same _
  | accept => exact .accept ..
  | start => exact .start ..
  | drop _ _ _ x => exact .drop _ _ _ (hd x)

def view (g : Nat) (s : St) : List Nat × List Nat × List Nat :=
  (cbsOf g s.accepted, cbsOf g s.started, pendingOf g s)

theorem VStep.of_same {d : Prop} {g : Nat} {s s' : St} (h1 : cbsOf g s'.accepted = cbsOf g s.accepted)
    (h2 : cbsOf g s'.started = cbsOf g s.started) (h3 : pendingOf g s' = pendingOf g s) :
    VStep d (view g s) (view g s') := by
  simp only [view, h1, h2, h3]; exact .same _

theorem VStep.of_pairs {d : Prop} {g : Nat} {s s' : St} (h1 : s'.accepted = s.accepted) (h2 : s'.started = s.started)
    (h3 : pairsQ (s'.wq.getD []) = pairsQ (s.wq.getD [])) (h4 : pairsW s'.workers = pairsW s.workers) :
    VStep d (view g s) (view g s') :=
  .of_same (by rw [h1]) (by rw [h2]) (by rw [pendingOf_eq, pendingOf_eq, h3, h4])

theorem VStep.of_accept {d : Prop} {g : Nat} {s s' : St} (c : Nat) (h1 : cbsOf g s'.accepted = cbsOf g s.accepted ++ [c])
    (h2 : cbsOf g s'.started = cbsOf g s.started) (h3 : pendingOf g s' = pendingOf g s ++ [c]) :
    VStep d (view g s) (view g s') := by
  simp only [view, h1, h2, h3]; exact .accept ..

theorem VStep.of_start {d : Prop} {g : Nat} {s s' : St} (f : Nat) (h1 : cbsOf g s'.accepted = cbsOf g s.accepted)
    (h2 : cbsOf g s'.started = cbsOf g s.started ++ [f]) (h3 : pendingOf g s = f :: pendingOf g s') :
    VStep d (view g s) (view g s') := by
  simp only [view, h1, h2, h3]; exact .start ..

theorem VStep.of_drop {d : Prop} {g : Nat} {s s' : St} (hd : d) (h1 : cbsOf g s'.accepted = cbsOf g s.accepted)
    (h2 : cbsOf g s'.started = cbsOf g s.started) (h3 : pendingOf g s' = []) :
    VStep d (view g s) (view g s') := by
  simp only [view, h1, h2, h3]; exact .drop _ _ _ hd

theorem view_subAppend {d : Prop} {s : St} (h : Inv s) {q : List Work} (hq : s.wq = some q) {wid : Nat} (h0 : wid ≠ 0)
    (hm : wid ∈ s.rwork) (cb : Nat) (l : List Sub) (g : Nat) :
    VStep d (view g s) (view g (subAppend s q wid cb l)) := by
  -- the one item of `wid`, queued or held by a worker, gets `cb`: seen on the list of all live items
  have h1 : cntQ wid (q ++ liveW s.workers) = 1 := by
    rw [cntQ_append, ← cntW_eq]; exact ((h.core q hq).mem wid h0).mp hm
  have hpend : pendingOf g (subAppend s q wid cb l) = pendingOf g s ++ if g = wid then [cb] else [] := by
    rw [pendingOf_eq, pendingOf_eq]
    simp only [subAppend, hq, Option.getD_some, pairsW_eq, liveW_map_appendWS, ← cbsOf_append, ← pairsQ_append,
      ← List.map_append]
    rw [cbsOf_pairsQ_appendWork g cb (Nat.le_of_eq h1), h1]
    simp
  by_cases hg : g = wid
  · subst hg
    refine .of_accept cb ?_ rfl ?_
    · simp [subAppend, cbsOf_single]
    · simpa using hpend
  · have : ¬ wid = g := fun e => hg e.symm
    refine .of_same ?_ rfl ?_
    · simp [subAppend, cbsOf_single, this]
    · simpa [hg] using hpend

theorem view_subNew {d : Prop} {s : St} (h : Inv s) {q : List Work} (hq : s.wq = some q) {wid : Nat}
    (hn : ¬ (wid ≠ 0 ∧ wid ∈ s.rwork)) (cb : Nat) (l : List Sub) (g : Nat) (hg0 : g ≠ 0) :
    VStep d (view g s) (view g (subNew s q wid cb l)) := by
  have hc := h.core q hq
  by_cases hg : g = wid
  · subst hg
    have hW : cntW g s.workers = 0 :=
      (Nat.add_eq_zero_iff.mp ((hc.count_eq hg0).trans (List.count_eq_zero.mpr fun hm => hn ⟨hg0, hm⟩))).2
    refine .of_accept cb ?_ rfl ?_
    · simp [subNew, cbsOf_single]
    · rw [pendingOf_eq, pendingOf_eq]
      simp [subNew, hq, wPairs, cbsOf_single, cbsOf_pairsW_of_cnt hW]
  · have : ¬ wid = g := fun e => hg e.symm
    refine .of_same ?_ rfl ?_
    · simp [subNew, cbsOf_single, this]
    · rw [pendingOf_eq, pendingOf_eq]
      simp [subNew, hq, wPairs, cbsOf_single, this]

theorem view_closeLock {s : St} (h : Inv s) (g : Nat) (hg0 : g ≠ 0) :
    VStep True (view g s) (view g { s with wq := none }) := by
  have hle := h.le g hg0
  by_cases hc : cntQ g (s.wq.getD []) = 0
  · refine .of_same rfl rfl ?_
    rw [pendingOf_eq, pendingOf_eq]
    simp [cbsOf_pairsQ_of_cnt hc]
  · refine .of_drop trivial rfl rfl ?_
    have hW : cntW g s.workers = 0 := by omega
    rw [pendingOf_eq]
    simp [cbsOf_pairsW_of_cnt hW]

theorem view_finish_eq {s : St} {i : Nat} {w : Work} {cb : Nat}
    (hi : s.workers[i]? = some (.running w cb)) (hp : w.pending = []) (g : Nat) :
    view g (finish s i w cb) = view g s := by
  have : pendingOf g (finish s i w cb) = pendingOf g s := by
    rw [pendingOf_eq, pendingOf_eq]
    have hw : wsPairs (.running w cb) = [] := by simp [wsPairs, wPairs, hp]
    simp only [finish, pairsW_set_of_nil (x := .idle) hi hw rfl]
  simp only [view, this]; rfl

/-- a locked section of worker `i`, as in `Inv.setWorker`.  `Inv` is asked of the after-state: the group of the new state
has no other live item there, so its pending callbacks are those of worker `i`. -/
theorem view_setWorker {d : Prop} {s : St} {i : Nat} {old x : WState} {wq' : Option (List Work)} {rw' : List Nat}
    {T : List (Nat × Nat)} (hI' : Inv (setWorker s i x wq' rw')) (hi : s.workers[i]? = some old)
    (hq : pairsQ (s.wq.getD []) = T ++ pairsQ (wq'.getD [])) (hx : T ++ wsPairs old = startedOf x ++ wsPairs x)
    (g : Nat) (hg0 : g ≠ 0) : VStep d (view g s) (view g (setWorker s i x wq' rw')) := by
  obtain ⟨A, B, hl, hset⟩ := set_split hi
  have hle := hI'.le g hg0
  simp only [setWorker_wq, setWorker_workers, hset] at hle
  have hx' := congrArg (cbsOf g) hx
  simp only [cbsOf_append] at hx'
  have hpend : pendingOf g s = cbsOf g T ++ cbsOf g (pairsQ (wq'.getD [])) ++
      (cbsOf g (pairsW A) ++ cbsOf g (wsPairs old) ++ cbsOf g (pairsW B)) := by
    rw [pendingOf_eq, hq, hl]; simp
  have hpend' : pendingOf g (setWorker s i x wq' rw') = cbsOf g (pairsQ (wq'.getD [])) ++
      (cbsOf g (pairsW A) ++ cbsOf g (wsPairs x) ++ cbsOf g (pairsW B)) := by
    rw [pendingOf_eq]; simp [hset]
  by_cases hg : wsWid x = some g
  · obtain ⟨hA, hB⟩ := cntW_beside hg (Nat.le_trans (Nat.le_add_left ..) hle)
    have hQ : cntQ g (wq'.getD []) = 0 := by
      simp only [cntW_append, cntW_cons, hg, if_true] at hle; omega
    cases x with
    | running w' f =>
      simp [wsWid] at hg
      refine .of_start f rfl (by simp [startedOf, cbsOf_single, hg]) ?_
      rw [hpend, hpend']
      simp only [cbsOf_pairsQ_of_cnt hQ, cbsOf_pairsW_of_cnt hA, cbsOf_pairsW_of_cnt hB, List.append_nil,
        List.nil_append, hx']
      simp [startedOf, cbsOf_single, hg]
    | _ => simp [wsWid] at hg
  · rw [cbsOf_startedOf_of_ne hg, cbsOf_wsPairs_of_ne hg, List.append_nil, List.append_eq_nil_iff] at hx'
    refine .of_same rfl (by simp [cbsOf_startedOf_of_ne hg]) ?_
    rw [hpend, hpend', hx'.1, hx'.2, cbsOf_wsPairs_of_ne hg]; simp

theorem view_next {d : Prop} {s : St} (h : Inv s) {i : Nat} {w : Work} {cb f : Nat} {fs : List Nat}
    (hi : s.workers[i]? = some (.running w cb)) (hp : w.pending = f :: fs) (g : Nat) (hg0 : g ≠ 0) :
    VStep d (view g s) (view g (next s i w cb f fs)) :=
  view_setWorker (s := { s with finished := s.finished ++ [cb] }) (T := []) (h.next hi hp) hi rfl
    (by simp [startedOf, wsPairs, wPairs, hp]) g hg0

theorem view_relook {d : Prop} {s : St} (h : Inv s) {i : Nat} {old : WState} (hi : s.workers[i]? = some old)
    (ho : wsWid old = none) (hne : old ≠ .exited) (g : Nat) (hg0 : g ≠ 0) :
    VStep d (view g s) (view g (relook s i)) :=
  view_setWorker (h.relook hi ho hne) hi (loopTop_pairs s.wq s.rwork)
    (by rw [wsPairs_of_wsWid_none ho, List.append_nil]) g hg0

theorem view_step {s s' : St} {a : Act} (h : Inv s) (hs : Step s a s') (g : Nat) (hg : g ≠ 0) :
    VStep (a = .closeLock) (view g s) (view g s') := by
  cases hs with
  | serve n hp =>
    obtain ⟨hq, hw⟩ := h.quiet hp
    exact .of_pairs rfl rfl (by rw [hq]; rfl) ((pairsW_replicate_idle n).trans (flatMap_of_all_exited rfl hw).symm)
  | checkFail | checkPass | lockClosed | signalNone | shutdownCas | shutdownDone => exact .same _
  | lockAppend _ hq h0 hm => exact view_subAppend h hq h0 hm _ _ g
  | lockNew _ hq hn => exact view_subNew h hq hn _ _ g hg
  | signalSome _ hi => exact .of_pairs rfl rfl rfl (pairsW_set_of_nil (waiter_of_find hi) rfl rfl)
  | wStart _ hi | wWake _ hi | wSpurious _ hi => exact view_relook h hi rfl (by simp) g hg
  | doneNext _ hi hp => exact view_next h hi hp g hg
  | doneLast _ hi hp =>
    rw [← view_finish_eq hi hp g]
    exact view_relook (h.finish hi hp) (finish_getElem? hi) rfl (by simp) g hg
  | closeLock => exact (view_closeLock h g hg).mono fun _ => rfl
  | closeBroadcast => exact .of_pairs rfl rfl rfl (by rw [broadcast_eq]; exact pairsW_map_bcast _)

/-! ## order and exactly-once, per group -/

/-- exactly-once, in order: accepted = started ++ pending -/
def Fifo (v : List Nat × List Nat × List Nat) : Prop := v.2.1 ++ v.2.2 = v.1

/-- order with drops: the pending ones are the tail of accepted, the started ones a subsequence of the rest -/
def Ord (v : List Nat × List Nat × List Nat) : Prop := ∃ pre, v.1 = pre ++ v.2.2 ∧ v.2.1.Sublist pre

theorem VStep.fifo {v v'} (h : VStep False v v') (hf : Fifo v) : Fifo v' := by
  cases h with
  | same => exact hf
  | accept a st p c => simp only [Fifo] at hf ⊢; rw [← hf]; simp
  | start a st p f => simp only [Fifo] at hf ⊢; rw [← hf]; simp
  | drop _ _ _ x => exact x.elim

theorem VStep.ord {d : Prop} {v v'} (h : VStep d v v') (hf : Ord v) : Ord v' := by
  cases h with
  | same => exact hf
  | accept a st p c =>
    obtain ⟨pre, h1, h2⟩ := hf
    exact ⟨pre, by simp only at h1 ⊢; rw [h1]; simp, h2⟩
  | start a st p f =>
    obtain ⟨pre, h1, h2⟩ := hf
    exact ⟨pre ++ [f], by simp only at h1 ⊢; rw [h1]; simp, h2.append (List.Sublist.refl _)⟩
  | drop a st p x =>
    obtain ⟨pre, h1, h2⟩ := hf
    exact ⟨pre ++ p, by simp only at h1 ⊢; rw [h1]; simp, h2.trans (List.sublist_append_left _ _)⟩

/-- `A` as in `run_induction` -/
theorem view_run {P : List Nat × List Nat × List Nat → Prop} {A : Act → Prop} {g : Nat} (hg : g ≠ 0)
    (hP : ∀ {a v v'}, A a → VStep (a = .closeLock) v v' → P v → P v')
    {acts : List Act} {s s' : St} (hA : ∀ a ∈ acts, A a) (h : Inv s) (hf : P (view g s))
    (hr : run s acts = some s') : P (view g s') :=
  (run_induction (P := fun s => Inv s ∧ P (view g s))
    (fun ha h hs => ⟨h.1.step hs, hP ha (view_step h.1 hs g hg) h.2⟩) hA ⟨h, hf⟩ hr).2

end GoRes.Pool
