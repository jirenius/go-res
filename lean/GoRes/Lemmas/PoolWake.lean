import GoRes.Lemmas.PoolStep
/-! What keeps the workers of the pool looking at the queue, and what they still do once it is closed (C02, C03).  Over
`Lemmas/PoolStep` alone, laid out as its head says: nothing here counts items or needs `Inv`.

* `InvW`: queued work has a worker that is going to look or a submitter that owes a `Signal`, provided no `serve` starts
  zero workers (`SetWorkerCount` turns a count ≤ 0 into the default).  `no_lost_wakeup`, `never_stuck` (C02).
* `QNE`: a queued item holds a callback.  `queued_items_nonempty`, `next_step_starts_a_callback` (C02).
* `Step.closed`, `Step.own_closed`: what a step does once the queue is closed.  `closed_stays_closed` and the bounded exit of
  C03 (`own_step_decreases`, `exit_measure_nonincreasing`, `unsignalled_never_returns`); a new result about the time after
  `close()` starts from these two. -/
namespace GoRes.Pool

/-! ## no lost wake-up: `InvW` -/

/-- a worker that is going to look at the queue without further help -/
def Active (ws : WState) : Prop := ws = .idle ∨ ws = .waiting true ∨ ∃ w c, ws = .running w c

theorem tid_inj {l : List Sub} (hp : l.Pairwise (fun a b : Sub => a.tid ≠ b.tid)) {a b : Sub}
    (ha : a ∈ l) (hb : b ∈ l) (h : a.tid = b.tid) : a = b :=
  List.Pairwise.forall_of_forall_of_flip (R := fun a b : Sub => a.tid = b.tid → a = b) (fun _ _ _ => rfl)
    (hp.imp fun hne e => absurd e hne) (hp.imp fun hne e => absurd e.symm hne) ha hb h

theorem tids_append {l : List Sub} (h : l.Pairwise (fun a b : Sub => a.tid ≠ b.tid)) {e : Sub}
    (he : ∀ a ∈ l, a.tid ≠ e.tid) : (l ++ [e]).Pairwise (fun a b : Sub => a.tid ≠ b.tid) :=
  List.pairwise_append.mpr ⟨h, List.pairwise_singleton _ _, fun a ha _ hb => List.mem_singleton.mp hb ▸ he a ha⟩

/-- `nlw` is "no lost wake-up"; the other fields are what carries it across the steps -/
structure InvW (s : St) : Prop where
  /-- with `noExit`, for a `Signal` that finds nobody waiting (`signalNone`): worker 0 is there and is then active -/
  nonempty : s.wq.isSome = true → s.workers ≠ []
  noExit : s.wq.isSome = true → ∀ ws ∈ s.workers, ws ≠ .exited
  /-- `waitOrder` knows every unsignalled waiter, so `Signal` finds one if there is one -/
  waitOrd : ∀ i, s.workers[i]? = some (.waiting false) → i ∈ s.waitOrder
  tids : s.inflight.Pairwise (fun a b => a.tid ≠ b.tid)
  nlw : ∀ q, s.wq = some q → q ≠ [] →
    (∃ ws ∈ s.workers, Active ws) ∨ (∃ e ∈ s.inflight, e.needSignal = true)

theorem InvW.init : InvW init :=
  ⟨fun h => (by cases h), fun h => (by cases h), fun i h => by simp [Pool.init] at h, List.Pairwise.nil,
    fun q h => by cases h⟩

theorem InvW.serve {s : St} (h : InvW s) {n : Nat} (hn : 1 ≤ n) : InvW (served s n) := by
  refine ⟨fun _ => ?_, fun _ ws hws => ?_, fun i hi => ?_, h.tids, fun q hq hne => ?_⟩
  · simp [served]; omega
  · simp [served] at hws; simp [hws.2]
  · simp [served, List.getElem?_replicate] at hi
  · simp [served] at hq; exact absurd hq hne

/-- under a closed queue only `waitOrd` and `tids` say anything -/
theorem InvW.of_closed {s : St} (hq : s.wq = none)
    (hw : ∀ i, s.workers[i]? = some (.waiting false) → i ∈ s.waitOrder)
    (ht : s.inflight.Pairwise (fun a b => a.tid ≠ b.tid)) : InvW s :=
  ⟨fun e => (by rw [hq] at e; cases e), fun e => (by rw [hq] at e; cases e), hw, ht, fun q e => by rw [hq] at e; cases e⟩

theorem InvW.closed {s s' : St} (h : InvW s) (hq : s'.wq = none) (hw : s'.workers = s.workers)
    (ho : s'.waitOrder = s.waitOrder) (hi : s'.inflight = s.inflight) : InvW s' :=
  .of_closed hq (by rw [hw, ho]; exact h.waitOrd) (hi ▸ h.tids)

/-- `lockClosed`: a submission that finds the queue closed is dropped -/
theorem InvW.filter {s : St} (h : InvW s) (tid : Nat) (hq : s.wq = none) :
    InvW { s with inflight := s.inflight.filter (·.tid ≠ tid) } :=
  .of_closed hq h.waitOrd (h.tids.filter _)

theorem InvW.broadcast {s : St} (h : InvW s) (hq : s.wq = none) : InvW (broadcast s) :=
  .of_closed hq (fun _ hj => absurd rfl (ne_waiting_of_mem_map_bcast _ (List.mem_of_getElem? (broadcast_eq s ▸ hj)))) h.tids

theorem InvW.checkPass {s : St} (h : InvW s) {tid : Nat} (wid cb : Nat) (ht : ∀ e ∈ s.inflight, e.tid ≠ tid) :
    InvW { s with inflight := s.inflight ++ [⟨tid, wid, cb, false⟩] } := by
  refine ⟨h.nonempty, h.noExit, h.waitOrd, tids_append h.tids ht, fun q hq hne => ?_⟩
  rcases h.nlw q hq hne with hw | ⟨e, he, hs⟩
  · exact Or.inl hw
  · exact Or.inr ⟨e, List.mem_append_left _ he, hs⟩

theorem active_appendWS {wid cb : Nat} {ws : WState} (h : Active ws) : Active (appendWS wid cb ws) := by
  rcases h with rfl | rfl | ⟨w, c, rfl⟩
  · exact Or.inl rfl
  · exact Or.inr (Or.inl rfl)
  · exact Or.inr (Or.inr ⟨_, _, rfl⟩)

theorem eq_of_appendWS_eq {wid cb : Nat} {ws x : WState} (hx : ∀ w c, x ≠ .running w c)
    (h : appendWS wid cb ws = x) : ws = x := by
  cases ws with
  | running w c => exact absurd h.symm (hx _ _)
  | _ => exact h

theorem InvW.subAppend {s : St} (h : InvW s) {q : List Work} (hq : s.wq = some q) {tid t wid cb : Nat}
    (hf : s.inflight.find? (·.tid = tid) = some ⟨t, wid, cb, false⟩) :
    InvW (subAppend s q wid cb (s.inflight.filter (·.tid ≠ tid))) := by
  have hqs : s.wq.isSome = true := by simp [hq]
  refine ⟨fun _ => ?_, fun _ ws hws => ?_, fun i hi => ?_, h.tids.filter _, fun q' hq' hne => ?_⟩
  · simpa [Pool.subAppend] using h.nonempty hqs
  · simp only [Pool.subAppend, List.mem_map] at hws
    obtain ⟨x, hx, rfl⟩ := hws
    intro he
    exact h.noExit hqs x hx (eq_of_appendWS_eq (by simp) he)
  · simp only [Pool.subAppend, List.getElem?_map, Option.map_eq_some_iff] at hi
    obtain ⟨x, hx, he⟩ := hi
    rw [eq_of_appendWS_eq (by simp) he] at hx
    exact h.waitOrd i hx
  · simp only [Pool.subAppend, Option.some.injEq] at hq'
    subst hq'
    have hne' : q ≠ [] := fun e => hne (by simp [e])
    rcases h.nlw q hq hne' with ⟨ws, hws, ha⟩ | ⟨e, he, hs⟩
    · exact Or.inl ⟨_, List.mem_map_of_mem hws, active_appendWS ha⟩
    · -- the entry taken out is the one with this `tid`, and it owes no `Signal`
      refine Or.inr ⟨e, List.mem_filter.mpr ⟨he, decide_eq_true fun het => ?_⟩, hs⟩
      have hxt : (⟨t, wid, cb, false⟩ : Sub).tid = tid := by simpa using List.find?_some hf
      cases tid_inj h.tids he (List.mem_of_find?_eq_some hf) (het.trans hxt.symm)
      cases hs

theorem InvW.subNew {s : St} (h : InvW s) {q : List Work} (hq : s.wq = some q) (tid wid cb : Nat) :
    InvW (subNew s q wid cb (s.inflight.filter (·.tid ≠ tid) ++ [⟨tid, wid, cb, true⟩])) := by
  have hqs : s.wq.isSome = true := by simp [hq]
  exact ⟨fun _ => h.nonempty hqs, fun _ => h.noExit hqs, h.waitOrd,
    tids_append (h.tids.filter _) fun a ha => of_decide_eq_true (List.mem_filter.mp ha).2,
    fun q' _ _ => .inr ⟨⟨tid, wid, cb, true⟩, List.mem_append_right _ List.mem_cons_self, rfl⟩⟩

theorem InvW.signal {s : St} (h : InvW s) (tid : Nat) {i : Nat} (hi : s.workers[i]? = some (.waiting false)) :
    InvW { s with inflight := s.inflight.filter (·.tid ≠ tid), workers := s.workers.set i (.waiting true) } := by
  have hlt : i < s.workers.length := (List.getElem?_eq_some_iff.mp hi).1
  refine ⟨fun hq => ?_, fun hq ws hws => ?_, fun j hj => ?_, h.tids.filter _,
    fun _ _ _ => .inl ⟨_, List.mem_set hlt _, .inr (.inl rfl)⟩⟩
  · simpa using h.nonempty hq
  · rcases List.mem_or_eq_of_mem_set hws with hws | rfl
    · exact h.noExit hq ws hws
    · simp
  · rcases getElem?_set_cases hj with ⟨_, hx⟩ | ⟨_, hj⟩
    · cases hx
    · exact h.waitOrd j hj

/-- the first worker is neither gone nor, `Signal` having found nobody, waiting unsignalled -/
theorem InvW.signalNone {s : St} (h : InvW s) (tid : Nat)
    (hn : s.waitOrder.find? (fun i => s.workers[i]? = some (.waiting false)) = none) :
    InvW { s with inflight := s.inflight.filter (·.tid ≠ tid) } := by
  refine ⟨h.nonempty, h.noExit, h.waitOrd, h.tids.filter _, fun q hq _ => .inl ?_⟩
  have hqs : s.wq.isSome = true := by rw [show s.wq = some q from hq]; rfl
  obtain ⟨ws, rest, hw⟩ := List.exists_cons_of_ne_nil (h.nonempty hqs)
  have h0 : s.workers[0]? = some ws := by rw [hw]; rfl
  refine ⟨ws, List.mem_of_getElem? h0, ?_⟩
  cases ws with
  | idle => exact .inl rfl
  | waiting b =>
    cases b with
    | true => exact .inr (.inl rfl)
    | false => simpa [h0] using List.find?_eq_none.mp hn 0 (h.waitOrd 0 h0)
  | running w c => exact .inr (.inr ⟨_, _, rfl⟩)
  | exited => exact absurd rfl (h.noExit hqs _ (List.mem_of_getElem? h0))

theorem InvW.finished {s : St} (h : InvW s) (l : List Nat) : InvW { s with finished := l } :=
  ⟨h.nonempty, h.noExit, h.waitOrd, h.tids, h.nlw⟩

theorem InvW.setWorker {s : St} (h : InvW s) {i : Nat} {old x : WState} {wq' : Option (List Work)} (rw' : List Nat)
    (hi : s.workers[i]? = some old) (hq : wq'.isSome = s.wq.isSome) (hx : wq'.isSome = true → x ≠ .exited)
    (ha : ∀ q', wq' = some q' → q' ≠ [] → Active x) : InvW (setWorker s i x wq' rw') := by
  have hlt : i < s.workers.length := (List.getElem?_eq_some_iff.mp hi).1
  refine ⟨fun hq' => ?_, fun hq' ws hws => ?_, fun j hj => ?_, h.tids,
    fun q' hq' hne => .inl ⟨x, List.mem_set hlt _, ha q' hq' hne⟩⟩
  · simpa using h.nonempty (hq ▸ hq')
  · rcases List.mem_or_eq_of_mem_set hws with hws | rfl
    · exact h.noExit (hq ▸ hq') ws hws
    · exact hx hq'
  · rcases getElem?_set_cases hj with ⟨rfl, rfl⟩ | ⟨hne, hj⟩
    · simp [Pool.setWorker]
    · have hm := (List.mem_erase_of_ne hne).mpr (h.waitOrd j hj)
      simp only [Pool.setWorker]
      split
      · exact List.mem_append_left _ hm
      · exact hm

/-- worker `i` looks at the queue, whatever it registers -/
theorem InvW.look {s : St} (h : InvW s) {i : Nat} {old : WState} (hi : s.workers[i]? = some old) (rw : List Nat) :
    InvW (Pool.setWorker s i (loopTop s.wq rw).1 (loopTop s.wq rw).2.1 (loopTop s.wq rw).2.2) := by
  cases hq : s.wq with
  | none => exact h.setWorker _ hi (by rw [hq]; rfl) (fun hq' => by cases hq') fun _ hq' => by cases hq'
  | some q =>
    rw [loopTop_some]
    refine h.setWorker _ hi (by rw [hq]; rfl) (fun _ => ?_) fun q' hq' hne => ?_
    · cases (takeNext q rw).1 <;> simp [optState]
    · cases ho : (takeNext q rw).1 with
      | none => exact absurd (takeNext_none ho) (Option.some.inj hq' ▸ hne)
      | some x => exact .inr (.inr ⟨_, _, rfl⟩)

theorem InvW.step {s s' : St} {a : Act} (hn : ∀ n, a = .serve n → 1 ≤ n) (h : InvW s) (hs : Step s a s') :
    InvW s' := by
  cases hs with
  | serve n => exact h.serve (hn n rfl)
  | checkFail => exact h
  | checkPass ht => exact h.checkPass _ _ ht
  | lockClosed _ hq => exact h.filter _ hq
  | lockAppend hf hq => exact h.subAppend hq hf
  | lockNew _ hq => exact h.subNew hq ..
  | signalSome _ hi => exact h.signal _ (waiter_of_find hi)
  | signalNone _ hi => exact h.signalNone _ hi
  | wStart _ hi | wWake _ hi | wSpurious _ hi => exact h.look hi _
  | doneNext _ hi =>
    exact (h.finished _).setWorker _ hi rfl (fun _ => by simp) fun _ _ _ => .inr (.inr ⟨_, _, rfl⟩)
  | @doneLast _ _ cb hi _ => rw [relook_finish]; exact (h.finished (s.finished ++ [cb])).look hi _
  | shutdownCas => exact ⟨h.nonempty, h.noExit, h.waitOrd, h.tids, h.nlw⟩
  | closeLock => exact h.closed rfl rfl rfl rfl
  | closeBroadcast _ hq => exact h.broadcast hq
  | shutdownDone _ hq => exact h.closed hq rfl rfl rfl

theorem InvW.run {acts : List Act} {s s' : St} (h : InvW s) (hr : Pool.run s acts = some s')
    (hn : ∀ n, Act.serve n ∈ acts → 1 ≤ n) : InvW s' :=
  run_induction InvW.step (fun _ ha n e => hn n (e ▸ ha)) h hr

/-! ## queued work items hold a callback: `QNE` -/

def QNE (s : St) : Prop := ∀ q, s.wq = some q → ∀ w ∈ q, w.pending ≠ []

theorem QNE.relook {s : St} (h : QNE s) (i : Nat) : QNE (relook s i) := by
  intro q' hq' w hw
  cases hq : s.wq with
  | none => rw [relook_of_closed i hq] at hq'; cases hq'
  | some q =>
    simp only [Pool.relook, hq, loopTop_some] at hq'
    cases hq'
    exact h q hq w (takeNext_subset q s.rwork w hw)

theorem QNE.init : QNE init := by intro q hq; cases hq

theorem QNE.step {s s' : St} {a : Act} (h : QNE s) (hs : Step s a s') : QNE s' := by
  cases hs with
  | serve => intro q hq w hw; cases hq; cases hw
  | closeLock => intro q hq; cases hq
  | lockAppend _ hq =>
    intro q' hq' w hw
    cases hq'
    obtain ⟨w0, hw0, rfl⟩ := List.mem_map.mp hw
    unfold appendWork
    split
    · simp
    · exact h _ hq w0 hw0
  | lockNew _ hq =>
    intro q' hq' w hw
    cases hq'
    rcases List.mem_append.mp hw with hw | hw
    · exact h _ hq w hw
    · cases List.mem_singleton.mp hw; simp
  | wStart | wWake | wSpurious => exact h.relook _
  | doneLast i => exact QNE.relook (s := finish s i _ _) h _
  | _ => exact h

theorem QNE.reachable {acts : List Act} {s : St} (h : Pool.run Pool.init acts = some s) : QNE s :=
  run_induction (A := fun _ => True) (fun _ h hs => h.step hs) (fun _ _ => trivial) QNE.init h

/-! ## steps once the queue is closed -/

theorem Step.own_closed {s s' : St} {a : Act} {i : Nat} (hs : Step s a s') (hq : s.wq = none)
    (ha : a = .wStart i ∨ a = .wWake i ∨ a = .wDone i ∨ a = .wSpurious i) :
    ∃ old x, s.workers[i]? = some old ∧ s'.workers = s.workers.set i x ∧
      (old ≠ .exited ∧ x = .exited ∨
       ∃ w cb f fs, old = .running w cb ∧ w.pending = f :: fs ∧ x = .running { w with pending := fs } f) := by
  cases hs with
  | wStart j h | wWake j h | wSpurious j h =>
    obtain rfl : j = i := by simpa using ha
    exact ⟨_, .exited, h, by rw [relook_of_closed _ hq]; rfl, .inl ⟨by simp, rfl⟩⟩
  | @doneNext j w cb f fs h hp =>
    obtain rfl : j = i := by simpa using ha
    exact ⟨_, _, h, rfl, .inr ⟨w, cb, f, fs, rfl, hp, rfl⟩⟩
  | doneLast j h hp =>
    obtain rfl : j = i := by simpa using ha
    -- `hq` is handed over for `(finish s j w cb).wq = none`, the same by unfolding
    exact ⟨_, .exited, h, by rw [relook_of_closed _ (by exact hq)]; simp [finish], .inl ⟨by simp, rfl⟩⟩
  | _ => simp at ha

/-- of a worker's own step (the last case) `Step.own_closed` says what it does -/
theorem Step.closed {s s' : St} {a : Act} (hs : Step s a s') (hq : s.wq = none) (ha : ∀ n, a ≠ .serve n) :
    s'.wq = none ∧ (s'.workers = s.workers ∨ s'.workers = s.workers.map bcast ∨
      (∃ i, s.workers[i]? = some (.waiting false) ∧ s'.workers = s.workers.set i (.waiting true)) ∨
      ∃ i, a = .wStart i ∨ a = .wWake i ∨ a = .wDone i ∨ a = .wSpurious i) := by
  cases hs with
  | serve n => exact absurd rfl (ha n)
  | lockAppend _ hq' | lockNew _ hq' => rw [hq] at hq'; cases hq'
  | wStart i | wWake i | wSpurious i => exact ⟨by rw [relook_of_closed _ hq]; rfl, .inr (.inr (.inr ⟨i, by simp⟩))⟩
  | doneNext i => exact ⟨hq, .inr (.inr (.inr ⟨i, by simp⟩))⟩
  | doneLast i => exact ⟨by rw [relook_of_closed _ (by exact hq)]; rfl, .inr (.inr (.inr ⟨i, by simp⟩))⟩
  | signalSome _ hi => exact ⟨hq, .inr (.inr (.inl ⟨_, waiter_of_find hi, rfl⟩))⟩
  | closeBroadcast => exact ⟨hq, .inr (.inl (congrArg St.workers (broadcast_eq s)))⟩
  | closeLock => exact ⟨rfl, .inl rfl⟩
  | _ => exact ⟨hq, .inl rfl⟩

end GoRes.Pool
