import GoRes.Model.QueryEvent
/-! Two invariants of the query-event model (C15).  `RInv`, along the script of one query request: as many responses are
out as `replied` says, one or none, so that the end of `handle` supplies the missing one.  `SInv`, along the life of the
query event: the callback has been called with nil exactly if the event has expired, and then nothing is held any more.
An expired query event ignores whatever arrives (`run_expired`). -/
namespace GoRes.QueryEvent

def QStep.st : QStep → RSt
  | .cont s => s
  | .panic s _ => s

def RInv (s : RSt) : Prop :=
  (s.out.filter isResponse).length = if s.replied then 1 else 0

theorem rinv_init : RInv {} := by simp [RInv]

theorem RInv.append {s : RSt} (h : RInv s) (hn : s.replied = false) {r : Reply} (hr : isResponse r = true) :
    ((s.out ++ [r]).filter isResponse).length = 1 := by
  rw [RInv, hn] at h
  rw [List.filter_append, List.length_append, h, List.filter_cons_of_pos hr]
  rfl

theorem rinv_reply {s : RSt} (h : RInv s) {r : Reply} (hr : isResponse r = true) : RInv (reply s r) := by
  unfold reply
  split
  · exact h
  · next hs => exact h.append (by simpa using hs) hr

theorem rinv_ite {c : Prop} [Decidable c] {a b : QStep} (ha : RInv a.st) (hb : RInv b.st) :
    RInv (if c then a else b).st := by
  split <;> assumption

theorem rinv_qact (typ : Nat) {s : RSt} (h : RInv s) (a : QAct) : RInv (qact typ s a).st := by
  have hr : ∀ r, isResponse r = true → RInv (reply s r) := fun _ => rinv_reply h
  cases a with
  | model ok | collection ok => exact rinv_ite h (hr _ (by cases ok <;> rfl))
  | change _ _ | add _ _ | remove _ => exact rinv_ite h (rinv_ite h h)
  | notFound | invalidQuery _ => exact hr _ rfl
  | error e => cases e <;> exact hr _ rfl
  | timeout ms =>
    refine rinv_ite h ?_
    simp only [QStep.st, RInv, List.filter_append] at h ⊢
    rw [List.length_append, h]
    rfl
  | panic p => exact h

theorem rinv_runQ (typ : Nat) {s : RSt} (h : RInv s) (as : List QAct) : RInv (runQ typ s as).st := by
  fun_induction runQ typ s as with
  | case1 => exact h
  | case2 s a as s' hq ih => have h1 := rinv_qact typ h a; rw [hq] at h1; exact ih h1
  | case3 s a as s' p hq => have h1 := rinv_qact typ h a; rw [hq] at h1; exact h1

theorem step_expired (typ : Nat) (s : St) (h : s.expired = true) (e : Ev) : step typ s e = (s, []) := by
  cases e <;> simp [step, h]

theorem step_expire (typ : Nat) (s : St) : (step typ s .expire).1.expired = true := by
  by_cases hs : s.expired = true <;> simp [step, hs]

theorem run_cons_fst (typ : Nat) (s : St) (e : Ev) (es : List Ev) :
    (run typ s (e :: es)).1 = (run typ (step typ s e).1 es).1 := rfl

theorem run_expired (typ : Nat) (s : St) (h : s.expired = true) (evs : List Ev) :
    (run typ s evs).1 = s ∧ ∀ r ∈ (run typ s evs).2, r = [] := by
  induction evs with
  | nil => simp [run]
  | cons e es ih =>
    simp only [run, step_expired typ s h e]
    exact ⟨ih.1, List.forall_mem_cons.mpr ⟨rfl, ih.2⟩⟩

theorem run_expire_mem (typ : Nat) (evs : List Ev) :
    ∀ s, Ev.expire ∈ evs → (run typ s evs).1.expired = true := by
  induction evs with
  | nil => intro s h; cases h
  | cons e es ih =>
    intro s h
    rw [run_cons_fst]
    rcases List.mem_cons.mp h with rfl | h
    · rw [(run_expired typ _ (step_expire typ s) es).1]; exact step_expire typ s
    · exact ih _ h

def SInv (s : St) : Prop :=
  s.nilCalls = (if s.expired then 1 else 0) ∧ (s.expired = true → s.listener = false ∧ s.subscribed = false)

theorem sinv_init : SInv {} := by simp [SInv]

theorem sinv_step (typ : Nat) {s : St} (h : SInv s) (e : Ev) : SInv (step typ s e).1 := by
  by_cases hx : s.expired = true
  · rw [step_expired typ s hx e]; exact h
  · simp only [Bool.not_eq_true] at hx
    cases e with
    | request p sc => simpa [step, hx, SInv] using h
    | expire =>
      have := h.1
      simp [hx] at this
      simp [step, hx, SInv, this]

theorem sinv_run (typ : Nat) {s : St} (h : SInv s) (evs : List Ev) : SInv (run typ s evs).1 := by
  induction evs generalizing s with
  | nil => exact h
  | cons e es ih =>
    rw [run_cons_fst]
    exact ih (sinv_step typ h e)

end GoRes.QueryEvent
