import GoRes.Model.Mux
import GoRes.Lemmas.Mux
import GoRes.Lemmas.PatternParse
/-! Lookup and registration through a mounted sub-mux: a subtree flagged `mounted`, under a path `st`
of literal edges in the parent's tree (`LitPath`; a literal token is its own edge, passes the checks
of `fetch` and binds no parameter: `elemOf_of_litOk`, `tokErr_of_litOk`, `tokParams_of_litOk`).
`matchNode` and `fetch` walk down `st` edge by edge (`matchNode_through`, `fetch_through`); at the
mounted node they drop the mount index they came with (`matchNode_mounted`, `fetch_mounted`), and
from there on they are the sub-mux's own lookup and `fetch` with every position shifted by
`st.length` (`matchNode_shift`, `fetch_shift`).  Last, the pattern string: `st.p` splits into `st`
and the tokens of `p`, and is valid iff `p` is (`splitPattern_through`, `isValid_through`). -/
namespace GoRes.Mux

/-- group indexes shifted by the length of the mount path -/
def shiftGroup (k : Nat) (g : Group) : Group :=
  g.map (·.map fun gp => match gp with | .idx i => .idx (i + k) | x => x)

/-- tokens of a mount path: every token is a literal pattern token — non-empty, first byte
visible and none of `$ * > ? .`, later bytes visible and none of `* > ? .` (`Pattern.litOk`).
This is what `Pattern.isValidPath` accepts for the tokens of a (non-empty) mount path. -/
def LitPath (st : List Str) : Prop := ∀ t ∈ st, Pattern.litOk t = true

theorem litOk_ne_nil {t : Str} (h : Pattern.litOk t = true) : t ≠ [] := by
  cases t with
  | nil => simp [Pattern.litOk] at h
  | cons c r => simp

def Found.shift (k : Nat) (f : Found) : Found := ⟨f.node, f.mountIdx + k⟩

theorem tryChild_shift (rest : List Str) : ∀ (c : Option Node) (i mi k : Nat),
    tryChild c rest (i + k) (mi + k) = (tryChild c rest i mi).map (Found.shift k) := by
  induction rest with
  | nil =>
    intro c i mi k
    cases c with
    | none => rfl
    | some n => rw [tryChild_nil, tryChild_nil]; split <;> rfl
  | cons t rest ih =>
    intro c i mi k
    cases c with
    | none => rfl
    | some l =>
      rw [tryChild_cons, tryChild_cons, matchNode_cons, matchNode_cons, ← apply_ite (· + k),
        Nat.add_right_comm i k 1, ih, ih, Option.map_or, Option.map_or, Option.map_map]
      rfl

theorem matchNode_shift (toks : List Str) (l : Node) (i mi k : Nat) :
    matchNode l toks (i + k) (mi + k) = (matchNode l toks i mi).map (Found.shift k) := by
  cases toks with
  | nil => rfl
  | cons t rest => exact tryChild_shift (t :: rest) (some l) i mi k

theorem matchNode_mounted (l : Node) (hm : l.mounted = true) (toks : List Str) (i mi : Nat) :
    matchNode l toks i mi = matchNode l toks i i := by
  cases toks with
  | nil => rfl
  | cons t rest => rw [matchNode_cons, matchNode_cons]; simp [hm]

theorem matchNode_through (sub : Node) (rest : List Str) (f : Found) (hm : sub.mounted = true)
    (hf : matchNode sub rest 0 0 = some f) :
    ∀ (st : List Str) (root : Node) (i mi : Nat), LitPath st →
      getAt root (st.map elemOf) = some sub →
      matchNode root (st ++ rest) i mi = some ⟨f.node, f.mountIdx + (i + st.length)⟩ := by
  have hrest : rest ≠ [] := by
    intro h; subst h; simp [matchNode_nil] at hf
  intro st
  induction st with
  | nil =>
    intro root i mi _ hloc
    simp only [List.map_nil, getAt_nil, Option.some.injEq] at hloc
    subst hloc
    have := matchNode_shift rest root 0 0 i
    simp only [Nat.zero_add] at this
    rw [List.nil_append, matchNode_mounted root hm, this, hf]
    simp [Found.shift]
  | cons t st ih =>
    intro root i mi hst hloc
    rw [List.map_cons, elemOf_of_litOk (hst t (List.mem_cons_self ..))] at hloc
    obtain ⟨c, hc, hloc⟩ := getAt_cons_some.1 hloc
    have hne : st ++ rest ≠ [] := by simp [hrest]
    have := ih c (i + 1) (if root.mounted then i else mi)
      (fun t ht => hst t (List.mem_cons_of_mem _ ht)) hloc
    rw [List.cons_append, matchNode_cons, hc]
    have htc : tryChild (some c) (st ++ rest) (i + 1) (if root.mounted then i else mi) =
        matchNode c (st ++ rest) (i + 1) (if root.mounted then i else mi) := by
      simp [tryChild, hne]
    rw [htc, this, Option.some_or, List.length_cons, Nat.add_assoc, Nat.add_comm 1]

theorem rebase_shiftGroup (g : Group) (k mi : Nat) : rebase (shiftGroup k g) (mi + k) = rebase g mi := by
  cases g with
  | none => rfl
  | some l =>
    simp only [rebase, shiftGroup, Option.map_some, List.map_map, Option.some.injEq]
    apply List.map_congr_left
    intro gp _
    cases gp with
    | str s => rfl
    | idx j => simp [Nat.add_sub_add_right]

theorem addK_shift (id : Nat) (g : Group) (k : Nat) (n : Node) (fr : Bool) (ps : List PathParam) (mi : Nat) :
    addK id (shiftGroup k g) n fr ps (mi + k) = addK id g n fr ps mi := by
  simp only [addK, rebase_shiftGroup]

theorem fetch_shift {α : Type} (K K' : FetchK α) (k : Nat)
    (hK : ∀ x fr ps mi, K' x fr ps (mi + k) = K x fr ps mi) (toks : List Str) :
    ∀ (n : Node) (i mi : Nat) (ps : List PathParam) (fr : Bool),
      fetch none K' n toks (i + k) (mi + k) ps fr = fetch none K n toks i mi ps fr := by
  induction toks with
  | nil => intro n i mi ps fr; rw [fetch_none_nil, fetch_none_nil, hK]
  | cons t rest ih =>
    intro n i mi ps fr
    rw [fetch_none_cons, fetch_none_cons]
    rw [← apply_ite (· + k), Nat.add_sub_add_right, show i + k + 1 = (i + 1) + k by omega, ih]

theorem fetch_mounted {α : Type} (K : FetchK α)
    (n : Node) (hm : n.mounted = true) (t : Str) (rest : List Str) (i mi : Nat) (ps : List PathParam) (fr : Bool) :
    fetch none K n (t :: rest) i mi ps fr = fetch none K n (t :: rest) i i ps false := by
  rw [fetch_none_cons, fetch_none_cons]; simp [hm]

theorem fetch_through {α : Type} (K : FetchK α)
    (sub : Node) (ptoks : List Str) (hm : sub.mounted = true) (hp : ptoks ≠ []) :
    ∀ (st : List Str) (root : Node) (i mi : Nat) (ps : List PathParam) (fr : Bool), LitPath st →
      getAt root (st.map elemOf) = some sub →
      fetch none K root (st ++ ptoks) i mi ps fr =
        (setAt root (st.map elemOf) (fetch none K sub ptoks (i + st.length) (i + st.length) ps false).1,
         (fetch none K sub ptoks (i + st.length) (i + st.length) ps false).2) := by
  intro st
  induction st with
  | nil =>
    intro root i mi ps fr _ hloc
    simp only [List.map_nil, getAt_nil, Option.some.injEq] at hloc
    subst hloc
    cases ptoks with
    | nil => exact absurd rfl hp
    | cons t rest =>
      simp only [List.nil_append, List.length_nil, Nat.add_zero, List.map_nil, setAt]
      rw [fetch_mounted K root hm]
  | cons t st ih =>
    intro root i mi ps fr hst hloc
    have hlt := hst t (List.mem_cons_self ..)
    have ht := elemOf_of_litOk hlt
    rw [List.map_cons, ht] at hloc
    obtain ⟨c, hc, hloc⟩ := getAt_cons_some.1 hloc
    have := ih c (i + 1) (if root.mounted then i else mi) ps false
      (fun t ht => hst t (List.mem_cons_of_mem _ ht)) hloc
    rw [List.cons_append, fetch_none_cons, tokErr_of_litOk hlt, tokParams_of_litOk hlt]
    simp only [ht, hc, Option.getD_some, Option.isNone_some, List.append_nil]
    rw [this]
    simp only [List.map_cons, ht, setAt_cons, hc, List.length_cons]
    rw [show i + (st.length + 1) = i + 1 + st.length by omega]

theorem setAt_getAt {path : List Elem} {root sub : Node} (h : getAt root path = some sub) :
    setAt root path sub = root := by
  induction path generalizing root with
  | nil => simp at h; simp [setAt, h]
  | cons e r ih =>
    obtain ⟨c, hc, h⟩ := getAt_cons_some.1 h
    simp only [setAt_cons, hc, ih h, setChild_child hc]

theorem splitPattern_through (st ptoks : List Str) (hst : LitPath st) (hp : ptoks ≠ [])
    (hj : joinDots ptoks ≠ []) :
    splitPattern (joinDots (st ++ ptoks)) = st ++ splitPattern (joinDots ptoks) := by
  by_cases hs : st = []
  · rw [hs]; rfl
  · have hne : joinDots (st ++ ptoks) ≠ [] := by rw [joinDots_append hs hp]; simp
    rw [splitPattern_of_ne hne, splitPattern_of_ne hj, joinDots_append hs hp, splitDots_append_dot,
      splitDots_joinDots hs (fun t ht => (Pattern.Tok.ok_sOk (t := .lit t) (hst t ht)).2)]

theorem splitPattern_ne_nil {p : Str} (h : p ≠ []) : splitPattern p ≠ [] :=
  splitPattern_of_ne h ▸ splitDots_ne_nil p

theorem wfPat_litPath_append {st : List Str} (hst : LitPath st) (toks : List Str) :
    Pattern.wfPat ((st ++ toks).map Pattern.parseTok) = Pattern.wfPat (toks.map Pattern.parseTok) := by
  induction st with
  | nil => rfl
  | cons t st ih =>
    have ht := hst t (List.mem_cons_self ..)
    have hl : Pattern.parseTok t = .lit t := Pattern.parseTok_render (t := .lit t) ht
    rw [List.cons_append, List.map_cons, Pattern.wfPat_cons, hl, ih (fun t h => hst t (List.mem_cons_of_mem _ h))]
    simp [Pattern.Tok.ok, ht]

theorem isValid_through (st ptoks : List Str) (hst : LitPath st) (hp : ptoks ≠ [])
    (hj : joinDots ptoks ≠ []) :
    Pattern.isValid (joinDots (st ++ ptoks)) = Pattern.isValid (joinDots ptoks) := by
  rw [isValid_eq_wfPat, isValid_eq_wfPat, splitPattern_through st ptoks hst hp hj,
    wfPat_litPath_append hst]

end GoRes.Mux
