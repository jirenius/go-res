import GoRes.Model.StoreMap
import GoRes.Lemmas.Vals
/-! The store model through two statements: what one operation does (`exec_spec`: a mutation that is
let through writes and runs one callback, anything else changes nothing), and what `Init` leaves
under each id (`initOnce_vals`: the value that was there, else the first seed for the id), the
marker staying set once it is. -/
namespace GoRes.StoreMap
open GoRes.Index

variable {V : Type}

/-- what a mutating operation asks to be stored under the id (`none`: delete) -/
def Op.write : Op V → Option (Option V)
  | .create v _ | .update v _ => some (some v)
  | .delete => some none
  | .value | .exists_ => none

/-- in terms of `r` with `h : exec s id op = r`: the users hold the outcome as such an equation
(`r` a tuple of their variables, or `exec s id op` itself by `rfl`) and get the conclusion in `r` -/
theorem exec_spec (s : St V) (id : Bytes) (op : Op V) {r : Res V × List (Cb V) × St V} (h : exec s id op = r) :
    (∃ a, op.write = some a ∧ r = (.ok, [⟨id, vget s.vals id, a⟩], { s with vals := vput s.vals id a })) ∨
    (r.1 ≠ .ok ∧ r.2 = ([], s)) := by
  subst h
  fun_cases exec s id op
  -- the last leaf of `create` (of five), of `update` (of four) and of `delete` (of three): the write
  case case5 | case9 | case12 => exact .inl ⟨_, rfl, by rw [‹vget s.vals id = _›]; rfl⟩
  -- `value`: found or not, the answer is not `ok`
  case case13 => exact .inr ⟨by split <;> nofun, rfl⟩
  -- a refusal, or `exists_`
  all_goals exact .inr ⟨nofun, rfl⟩

theorem exec_ok {s : St V} {id : Bytes} {op : Op V} {cbs : List (Cb V)} {s' : St V}
    (h : exec s id op = (.ok, cbs, s')) :
    ∃ a, op.write = some a ∧ cbs = [⟨id, vget s.vals id, a⟩] ∧ s' = { s with vals := vput s.vals id a } := by
  obtain ⟨a, hw, hr⟩ | ⟨hne, _⟩ := exec_spec s id op h
  · cases hr; exact ⟨a, hw, rfl, rfl⟩
  · exact absurd rfl hne

theorem vget_seed_fold (seeds : List (Bytes × V)) (vs : List (Bytes × V)) (id : Bytes) :
    vget (seeds.foldl (fun vs (x : Bytes × V) => if (vget vs x.1).isSome then vs else vset vs x.1 x.2) vs) id
      = (vget vs id).or (vget seeds id) := by
  induction seeds generalizing vs with
  | nil => simp
  | cons e rest ih =>
    simp only [List.foldl_cons, ih, vget_cons]
    by_cases hid : e.1 = id
    · subst hid
      cases h : vget vs e.1 <;> simp [h, vget_vset]
    · have : ¬ id = e.1 := fun x => hid x.symm
      cases h : vget vs e.1 <;> simp [hid, vget_vset, this]

theorem initOnce_vals (seeds : List (Bytes × V)) (d : Disk V) (hm : d.marker = false) (id : Bytes) :
    vget (initOnce seeds d).vals id = (vget d.vals id).or (vget seeds id) := by
  simp only [initOnce, hm, Bool.false_eq_true, ↓reduceIte]
  exact vget_seed_fold seeds d.vals id

theorem initOnce_marker (seeds : List (Bytes × V)) (d : Disk V) : (initOnce seeds d).marker = true := by
  unfold initOnce; split <;> simp_all

theorem initOnce_of_marker (seeds : List (Bytes × V)) (d : Disk V) (h : d.marker = true) : initOnce seeds d = d := by
  simp [initOnce, h]

theorem commit_marker (d : Disk V) (t : Txn V) (h : d.marker = true) : (commit d t).marker = true := by
  cases t with
  | put id v => exact h
  | init seeds => exact initOnce_marker seeds d

theorem foldl_commit_marker (w : List (Txn V)) (d : Disk V) (h : d.marker = true) :
    (w.foldl commit d).marker = true :=
  List.foldlRecOn (motive := (·.marker = true)) w _ h fun d hd t _ => commit_marker d t hd

end GoRes.StoreMap
