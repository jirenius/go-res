/-! Association lists as maps: lookup of the first entry of a key, Go's `m[k] = v` (overwrite in
place, else append) and `delete(m, k)`.  Several models carry their own copy of these three
functions, word for word (`Index.vget/vset/vdel`, `Diff.mget/mset/mdel`, `Legacy.mget/mset/mdel`,
`Pattern.mapGet/mapSet`, and `Mux.assocGet/assocSet` of `Mux.World`, of which no lemma speaks);
each unfolds to the functions here, so the lemmas below are theirs. -/
namespace GoRes.Assoc

variable {κ α : Type} [BEq κ]

def get (l : List (κ × α)) (k : κ) : Option α := (l.find? (·.1 == k)).map (·.2)
def set (l : List (κ × α)) (k : κ) (v : α) : List (κ × α) :=
  if l.any (·.1 == k) then l.map (fun e => if e.1 == k then (k, v) else e) else l ++ [(k, v)]
def del (l : List (κ × α)) (k : κ) : List (κ × α) := l.filter (·.1 != k)

@[simp] theorem get_nil (k : κ) : get ([] : List (κ × α)) k = none := rfl

theorem get_append (l l' : List (κ × α)) (k : κ) : get (l ++ l') k = (get l k).or (get l' k) := by
  simp [get, List.find?_append, Option.map_or]

theorem nodup_del (l : List (κ × α)) (k : κ) (hd : (l.map (·.1)).Nodup) :
    ((del l k).map (·.1)).Nodup :=
  (List.filter_sublist.map _).nodup hd

theorem any_eq_get_isSome (l : List (κ × α)) (k : κ) : l.any (·.1 == k) = (get l k).isSome := by
  rw [get, Option.isSome_map, List.isSome_find?]

variable [LawfulBEq κ]

theorem get_eq_none_iff (l : List (κ × α)) (k : κ) : get l k = none ↔ ∀ e ∈ l, e.1 ≠ k := by
  simp only [get, Option.map_eq_none_iff, List.find?_eq_none, beq_iff_eq, ne_eq]

theorem mem_of_get {l : List (κ × α)} {k : κ} {v : α} (h : get l k = some v) : (k, v) ∈ l := by
  simp only [get, Option.map_eq_some_iff] at h
  obtain ⟨e, he, rfl⟩ := h
  have := List.find?_some he
  simp only [beq_iff_eq] at this
  exact this ▸ List.mem_of_find?_eq_some he

variable [DecidableEq κ]

theorem get_cons (e : κ × α) (l : List (κ × α)) (k : κ) :
    get (e :: l) k = if e.1 = k then some e.2 else get l k := by
  by_cases h : e.1 = k <;> simp [get, h]

theorem get_map_set (l : List (κ × α)) (k k' : κ) (v : α) :
    get (l.map (fun e => if e.1 == k then (k, v) else e)) k' =
      if k' = k then (get l k).map (fun _ => v) else get l k' := by
  induction l with
  | nil => simp
  | cons e l ih =>
    rw [List.map_cons, get_cons, ih]
    by_cases he : e.1 = k
    · subst he
      by_cases hk : k' = e.1
      · simp [hk, get_cons]
      · simp [hk, get_cons, Ne.symm hk]
    · by_cases hk : k' = k
      · subst hk; simp [he, get_cons]
      · simp [he, hk, get_cons]

theorem get_set (l : List (κ × α)) (k k' : κ) (v : α) :
    get (set l k v) k' = if k' = k then some v else get l k' := by
  unfold set
  rw [any_eq_get_isSome]
  cases h : get l k with
  | none =>
    by_cases hk : k' = k
    · simp [get_append, get_cons, hk, h]
    · simp [get_append, get_cons, hk, Ne.symm hk]
  | some w => rw [Option.isSome_some, if_pos rfl, get_map_set, h]; rfl

theorem get_del (l : List (κ × α)) (k k' : κ) :
    get (del l k) k' = if k' = k then none else get l k' := by
  rw [get, del, List.find?_filter]
  split
  · next h => subst h; simp
  · next h =>
    rw [get]
    congr 2
    funext e
    by_cases he : e.1 = k' <;> simp [he, h]

theorem mem_iff_get {l : List (κ × α)} (hd : (l.map (·.1)).Nodup) (k : κ) (v : α) :
    (k, v) ∈ l ↔ get l k = some v := by
  refine ⟨fun h => ?_, mem_of_get⟩
  induction l with
  | nil => cases h
  | cons e l ih =>
    rw [List.map_cons, List.nodup_cons] at hd
    rw [get_cons]
    rcases List.mem_cons.1 h with rfl | h
    · simp
    · rw [if_neg (fun he : e.1 = k => hd.1 (he ▸ List.mem_map_of_mem (f := (·.1)) h))]
      exact ih hd.2 h

theorem map_fst_set (l : List (κ × α)) (k : κ) (v : α) :
    (set l k v).map (·.1) = if (get l k).isSome then l.map (·.1) else l.map (·.1) ++ [k] := by
  unfold set
  rw [any_eq_get_isSome]
  split
  · rw [List.map_map]
    apply List.map_congr_left
    intro e _
    by_cases h : e.1 = k <;> simp [h]
  · simp

theorem nodup_set (l : List (κ × α)) (k : κ) (v : α) (hd : (l.map (·.1)).Nodup) :
    ((set l k v).map (·.1)).Nodup := by
  rw [map_fst_set]
  split
  · exact hd
  · next h =>
    rw [Bool.not_eq_true, Option.isSome_eq_false_iff, Option.isNone_iff_eq_none, get_eq_none_iff] at h
    rw [List.nodup_append]
    refine ⟨hd, by simp, ?_⟩
    simp only [List.mem_map, List.mem_singleton]
    rintro a ⟨e, he, rfl⟩ b rfl
    exact h e he

end GoRes.Assoc
