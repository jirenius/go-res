import GoRes.Model.Pool
/-! `step` of the worker-pool model as a relation, and what every development over it uses: `Lemmas/Pool` (what the pool registers,
counts and keeps in order; C01–C03), `Lemmas/PoolWake` (no lost wake-up, the steps under a closed queue; C02, C03),
`Lemmas/PoolHB` (happens-before; C16).

`Step` is `step` (`step_Step`, `Step.sound`); its constructors name the states a step leads to (`relook`, `finish`, `next`,
`subAppend`, `subNew`, `served`, `broadcast`), and `run_induction` carries a property along a run.  Every invariant is proved in
the same shape, and a new one starts so: one lemma per kind of after-state, under its name (`Inv.subNew`, `view_subNew`,
`InvW.subNew`); `.setWorker` for a worker's locked section in general, of which a look at the queue (`relook`) and the next
callback of the item held (`next`) are instances; `.step` dispatching over the constructors of `Step`; `.reachable` (`.run`) by
`run_induction`.  What a single step does or enables is read off `Step` as it stands: `worker_takes_head` (C02), `drained`,
`no_start_after_exit`, `no_worker_blocked` (C03).  The rest is lists with one element replaced (`set_split`) and the facts on
`loopTop`, `takeNext` and the broadcast that need no counting. -/
namespace GoRes.Pool

/-! ## `step` as a relation -/

/-- worker `i` (holding the lock, owning no item) looks at the queue -/
def relook (s : St) (i : Nat) : St :=
  setWorker s i (loopTop s.wq s.rwork).1 (loopTop s.wq s.rwork).2.1 (loopTop s.wq s.rwork).2.2

/-- virtual half-step of `wDone` with nothing pending: the item is retired, the worker is at the loop top (`.idle`: it holds
the lock and owns no item, as after `wStart`, so what follows is `relook` in both cases) -/
def finish (s : St) (i : Nat) (w : Work) (cb : Nat) : St :=
  { s with finished := s.finished ++ [cb], workers := s.workers.set i .idle, rwork := retire w.wid s.rwork }

/-- `wDone` with a pending callback -/
def next (s : St) (i : Nat) (w : Work) (cb f : Nat) (fs : List Nat) : St :=
  setWorker { s with finished := s.finished ++ [cb] } i (.running { w with pending := fs } f) s.wq s.rwork

def subAppend (s : St) (q : List Work) (wid cb : Nat) (rest : List Sub) : St :=
  { s with wq := some (q.map (appendWork wid cb)), workers := s.workers.map (appendWS wid cb),
           inflight := rest, accepted := s.accepted ++ [(wid, cb)] }

def subNew (s : St) (q : List Work) (wid cb : Nat) (infl : List Sub) : St :=
  { s with wq := some (q ++ [⟨wid, [cb]⟩]), rwork := if wid = 0 then s.rwork else wid :: s.rwork,
           inflight := infl, accepted := s.accepted ++ [(wid, cb)] }

def served (s : St) (n : Nat) : St :=
  { s with phase := .started, epoch := s.epoch + 1, wq := some [], rwork := [],
           workers := List.replicate n .idle, waitOrder := [] }

def broadcast (s : St) : St :=
  { s with workers := s.workers.map fun | .waiting _ => .waiting true | x => x }

/-- `step` as a relation, one constructor per branch of the code (`step_Step`, `Step.sound`) -/
inductive Step : St → Act → St → Prop
  | serve {s : St} (n : Nat) : s.phase = .stopped → s.workers.all (· = .exited) = true →
      Step s (.serve n) (served s n)
  | checkFail {s : St} {tid wid cb : Nat} : (∀ e ∈ s.inflight, e.tid ≠ tid) → Step s (.subCheck tid wid cb false) s
  | checkPass {s : St} {tid wid cb : Nat} : (∀ e ∈ s.inflight, e.tid ≠ tid) → s.epoch > 0 →
      Step s (.subCheck tid wid cb true) { s with inflight := s.inflight ++ [⟨tid, wid, cb, false⟩] }
  | lockClosed {s : St} {tid t wid cb : Nat} : s.inflight.find? (·.tid = tid) = some ⟨t, wid, cb, false⟩ →
      s.wq = none → Step s (.subLock tid) { s with inflight := s.inflight.filter (·.tid ≠ tid) }
  | lockAppend {s : St} {tid t wid cb : Nat} {q : List Work} :
      s.inflight.find? (·.tid = tid) = some ⟨t, wid, cb, false⟩ → s.wq = some q → wid ≠ 0 → wid ∈ s.rwork →
      Step s (.subLock tid) (subAppend s q wid cb (s.inflight.filter (·.tid ≠ tid)))
  | lockNew {s : St} {tid t wid cb : Nat} {q : List Work} :
      s.inflight.find? (·.tid = tid) = some ⟨t, wid, cb, false⟩ → s.wq = some q → ¬ (wid ≠ 0 ∧ wid ∈ s.rwork) →
      Step s (.subLock tid) (subNew s q wid cb (s.inflight.filter (·.tid ≠ tid) ++ [⟨tid, wid, cb, true⟩]))
  | signalSome {s : St} {tid t wid cb i : Nat} : s.inflight.find? (·.tid = tid) = some ⟨t, wid, cb, true⟩ →
      s.waitOrder.find? (fun i => s.workers[i]? = some (.waiting false)) = some i →
      Step s (.subSignal tid)
        { s with inflight := s.inflight.filter (·.tid ≠ tid), workers := s.workers.set i (.waiting true) }
  | signalNone {s : St} {tid t wid cb : Nat} : s.inflight.find? (·.tid = tid) = some ⟨t, wid, cb, true⟩ →
      s.waitOrder.find? (fun i => s.workers[i]? = some (.waiting false)) = none →
      Step s (.subSignal tid) { s with inflight := s.inflight.filter (·.tid ≠ tid) }
  | wStart {s : St} (i : Nat) : s.workers[i]? = some .idle → Step s (.wStart i) (relook s i)
  | wWake {s : St} (i : Nat) : s.workers[i]? = some (.waiting true) → Step s (.wWake i) (relook s i)
  | wSpurious {s : St} (i : Nat) : s.workers[i]? = some (.waiting false) → Step s (.wSpurious i) (relook s i)
  | doneNext {s : St} (i : Nat) {w : Work} {cb f : Nat} {fs : List Nat} :
      s.workers[i]? = some (.running w cb) → w.pending = f :: fs → Step s (.wDone i) (next s i w cb f fs)
  | doneLast {s : St} (i : Nat) {w : Work} {cb : Nat} :
      s.workers[i]? = some (.running w cb) → w.pending = [] → Step s (.wDone i) (relook (finish s i w cb) i)
  | shutdownCas {s : St} : s.phase = .started → Step s .shutdownCas { s with phase := .stopping }
  | closeLock {s : St} : s.phase = .stopping → s.wq.isSome = true → Step s .closeLock { s with wq := none }
  | closeBroadcast {s : St} : s.phase = .stopping → s.wq = none → Step s .closeBroadcast (broadcast s)
  | shutdownDone {s : St} : s.phase = .stopping → s.wq = none → s.workers.all (· = .exited) = true →
      Step s .shutdownDone { s with phase := .stopped }

@[simp] theorem setWorker_wq (s : St) (i ws wq rw) : (setWorker s i ws wq rw).wq = wq := rfl
@[simp] theorem setWorker_rwork (s : St) (i ws wq rw) : (setWorker s i ws wq rw).rwork = rw := rfl
@[simp] theorem setWorker_workers (s : St) (i ws wq rw) : (setWorker s i ws wq rw).workers = s.workers.set i ws := rfl
@[simp] theorem setWorker_started (s : St) (i ws wq rw) : (setWorker s i ws wq rw).started = s.started ++ startedOf ws := rfl
@[simp] theorem setWorker_phase (s : St) (i ws wq rw) : (setWorker s i ws wq rw).phase = s.phase := rfl
@[simp] theorem setWorker_accepted (s : St) (i ws wq rw) : (setWorker s i ws wq rw).accepted = s.accepted := rfl
@[simp] theorem setWorker_inflight (s : St) (i ws wq rw) : (setWorker s i ws wq rw).inflight = s.inflight := rfl
@[simp] theorem setWorker_finished (s : St) (i ws wq rw) : (setWorker s i ws wq rw).finished = s.finished := rfl

theorem relook_finish (s : St) (i : Nat) (w : Work) (cb : Nat) :
    relook (finish s i w cb) i =
      setWorker { s with finished := s.finished ++ [cb] } i (loopTop s.wq (retire w.wid s.rwork)).1
        (loopTop s.wq (retire w.wid s.rwork)).2.1 (loopTop s.wq (retire w.wid s.rwork)).2.2 := by
  simp only [relook, finish, setWorker, List.set_set]

/-- the end of a callback goes through `finish` also where more are pending (`rwork` is put back), so that `InvHB` argues
`doneNext` as it argues `doneLast` -/
theorem next_eq (s : St) (i : Nat) (w : Work) (cb f : Nat) (fs : List Nat) :
    next s i w cb f fs = setWorker (finish s i w cb) i (.running { w with pending := fs } f) s.wq s.rwork := by
  simp [next, finish, setWorker]

theorem finish_getElem? {s : St} {i : Nat} {w : Work} {cb : Nat} (h : s.workers[i]? = some (.running w cb)) :
    (finish s i w cb).workers[i]? = some .idle :=
  List.getElem?_set_self (List.getElem?_eq_some_iff.mp h).1

theorem waiter_of_find {s : St} {i : Nat}
    (h : s.waitOrder.find? (fun i => s.workers[i]? = some (.waiting false)) = some i) :
    s.workers[i]? = some (.waiting false) := by
  simpa using List.find?_some h

theorem not_any_tid {l : List Sub} {tid : Nat} : ¬ l.any (·.tid = tid) = true ↔ ∀ e ∈ l, e.tid ≠ tid := by
  simp

theorem step_Step {s s' : St} {a : Act} (hs : step s a = some s') : Step s a s' := by
  cases a with
  | serve n => obtain ⟨h, rfl⟩ := Option.ite_some_none_eq_some.mp hs; exact .serve _ h.1 h.2
  | subCheck tid wid cb pass =>
    rw [step] at hs
    by_cases hn : s.inflight.any (·.tid = tid) = true
    · rw [if_pos hn] at hs; cases hs
    · rw [if_neg hn] at hs
      cases pass with
      | false => cases hs; exact .checkFail (not_any_tid.mp hn)
      | true => obtain ⟨he, rfl⟩ := Option.ite_some_none_eq_some.mp hs; exact .checkPass (not_any_tid.mp hn) he
  | subLock tid =>
    rw [step] at hs; split at hs
    · next t wid cb hf =>
      split at hs
      · next hq => cases hs; exact .lockClosed hf hq
      · next q hq =>
        by_cases hc : wid ≠ 0 ∧ wid ∈ s.rwork
        · rw [if_pos hc] at hs; cases hs; exact .lockAppend hf hq hc.1 hc.2
        · rw [if_neg hc] at hs; cases hs; exact .lockNew hf hq hc
    · cases hs
  | subSignal tid =>
    rw [step] at hs; split at hs
    · next t wid cb hf =>
      split at hs
      · next i hi => cases hs; exact .signalSome hf hi
      · next hi => cases hs; exact .signalNone hf hi
    · cases hs
  | wStart i | wWake i | wSpurious i =>
    rw [step] at hs; split at hs
    · next h => cases hs; constructor; exact h
    · cases hs
  | wDone i =>
    rw [step] at hs; split at hs
    · next w cb hw =>
      split at hs
      · next f fs hp => cases hs; exact .doneNext _ hw hp
      · next hp => cases hs; exact relook_finish s i w cb ▸ .doneLast _ hw hp
    · cases hs
  | shutdownCas => obtain ⟨h, rfl⟩ := Option.ite_some_none_eq_some.mp hs; exact .shutdownCas h
  | closeLock => obtain ⟨h, rfl⟩ := Option.ite_some_none_eq_some.mp hs; exact .closeLock h.1 h.2
  | closeBroadcast => obtain ⟨h, rfl⟩ := Option.ite_some_none_eq_some.mp hs; exact .closeBroadcast h.1 (Option.isNone_iff_eq_none.mp h.2)
  | shutdownDone =>
    obtain ⟨h, rfl⟩ := Option.ite_some_none_eq_some.mp hs; exact .shutdownDone h.1 (Option.isNone_iff_eq_none.mp h.2.1) h.2.2

/-- the constructors of `Step` are the enabledness lemmas of the actions -/
theorem Step.sound {s s' : St} {a : Act} (h : Step s a s') : step s a = some s' := by
  cases h with
  | serve n hp hw => exact if_pos ⟨hp, hw⟩
  | checkFail hn => rw [step, if_neg (not_any_tid.mpr hn)]; rfl
  | checkPass hn he => rw [step, if_neg (not_any_tid.mpr hn), if_pos rfl, if_pos he]
  | lockClosed hf hq => rw [step, hf]; simp only [hq]
  | lockAppend hf hq h0 hm => rw [step, hf]; simp only [hq]; exact if_pos ⟨h0, hm⟩
  | lockNew hf hq hn => rw [step, hf]; simp only [hq]; exact if_neg hn
  | signalSome hf hi | signalNone hf hi => rw [step, hf]; simp only [hi]
  | wStart i hi | wWake i hi | wSpurious i hi => rw [step, hi]; rfl
  | doneNext i hi hp => rw [step, hi]; simp only [hp]; rfl
  | doneLast i hi hp => rw [step, hi, relook_finish]; simp only [hp]
  | shutdownCas hp => exact if_pos hp
  | closeLock hp hq => exact if_pos ⟨hp, hq⟩
  | closeBroadcast hp hq => exact if_pos ⟨hp, hq ▸ rfl⟩
  | shutdownDone hp hq hw => exact if_pos ⟨hp, hq ▸ rfl, hw⟩

theorem wDone_enabled {s : St} {i : Nat} {w : Work} {c : Nat} (hi : s.workers[i]? = some (.running w c)) :
    ∃ s', Step s (.wDone i) s' := by
  cases hp : w.pending with
  | nil => exact ⟨_, .doneLast _ hi hp⟩
  | cons f fs => exact ⟨_, .doneNext _ hi hp⟩

/-- `A` says which actions the run is made of: all (`Inv`), no `closeLock` (`fifo_exact`), no `serve 0` (`InvW`) -/
theorem run_induction {A : Act → Prop} {P : St → Prop}
    (hstep : ∀ {s a s'}, A a → P s → Step s a s' → P s') :
    ∀ {acts : List Act} {s s' : St}, (∀ a ∈ acts, A a) → P s → run s acts = some s' → P s'
  | [], _, _, _, h, hr => Option.some.inj hr ▸ h
  | a :: as, s, _, hA, h, hr => by
    rw [run] at hr
    cases hs : step s a with
    | none => rw [hs] at hr; cases hr
    | some m =>
      rw [hs] at hr
      exact run_induction hstep (fun b hb => hA b (List.mem_cons_of_mem _ hb))
        (hstep (hA a List.mem_cons_self) h (step_Step hs)) hr

/-! ## lists: one element replaced (`set_split`), workers that have all exited -/

theorem set_split {α} {l : List α} {i : Nat} {old : α} (h : l[i]? = some old) :
    ∃ A B, l = A ++ old :: B ∧ ∀ x, l.set i x = A ++ x :: B := by
  obtain ⟨hlt, rfl⟩ := List.getElem?_eq_some_iff.mp h
  refine ⟨l.take i, l.drop (i + 1), ?_, fun x => ?_⟩
  · rw [List.getElem_cons_drop, List.take_append_drop]
  · rw [List.set_eq_take_append_cons_drop, if_pos hlt]

theorem sum_map_set {α} (f : α → Nat) (l : List α) (i : Nat) (old x : α) (h : l[i]? = some old) :
    ((l.set i x).map f).sum + f old = (l.map f).sum + f x := by
  obtain ⟨A, B, rfl, hset⟩ := set_split h
  simp only [hset, List.map_append, List.map_cons, List.sum_append_nat, List.sum_cons]
  omega

theorem countP_flatMap_set {α β} {f : α → List β} {l : List α} {i : Nat} {old : α} (h : l[i]? = some old)
    (p : β → Bool) (x : α) :
    ((l.set i x).flatMap f).countP p + (f old).countP p = (l.flatMap f).countP p + (f x).countP p := by
  simp only [List.countP_flatMap]
  exact sum_map_set (List.countP p ∘ f) l i old x h

theorem flatMap_set_of_nil {α β} {f : α → List β} {l : List α} {i : Nat} {old x : α} (h : l[i]? = some old)
    (ho : f old = []) (hx : f x = []) : (l.set i x).flatMap f = l.flatMap f := by
  obtain ⟨A, B, rfl, hset⟩ := set_split h
  simp [hset, ho, hx]

theorem all_exited_mem {l : List WState} (h : l.all (· = .exited) = true) {ws : WState} (hw : ws ∈ l) :
    ws = .exited :=
  of_decide_eq_true (List.all_eq_true.mp h ws hw)

theorem all_exited_getElem? {l : List WState} (h : l.all (· = .exited) = true) {i : Nat} {ws : WState}
    (hi : l[i]? = some ws) : ws = .exited :=
  all_exited_mem h (List.mem_of_getElem? hi)

theorem flatMap_of_all_exited {β} {f : WState → List β} (hf : f .exited = []) {l : List WState}
    (h : l.all (· = .exited) = true) : l.flatMap f = [] :=
  List.flatMap_eq_nil_iff.mpr fun _ hw => all_exited_mem h hw ▸ hf

theorem getElem?_set_cases {α} {l : List α} {i j : Nat} {x y : α} (h : (l.set i x)[j]? = some y) :
    j = i ∧ y = x ∨ j ≠ i ∧ l[j]? = some y := by
  rw [List.getElem?_set] at h
  split at h
  · next e =>
    split at h
    · exact .inl ⟨e.symm, (Option.some.inj h).symm⟩
    · cases h
  · next e => exact .inr ⟨fun e' => e e'.symm, h⟩

/-! ## a look at the queue (`loopTop`, `takeNext`) and the broadcast, without counting -/

/-- the worker state a worker at the loop top ends in -/
def optState : Option (Work × Nat) → WState
  | some (w, f) => .running w f
  | none => .waiting false

theorem loopTop_some (q : List Work) (rw : List Nat) :
    loopTop (some q) rw = (optState (takeNext q rw).1, some (takeNext q rw).2.1, (takeNext q rw).2.2) := by
  simp only [loopTop]
  split <;> simp [*, optState]

theorem takeNext_cons_some (w : Work) (rest : List Work) (rw : List Nat) {f : Nat} {fs : List Nat}
    (h : w.pending = f :: fs) : takeNext (w :: rest) rw = (some ({ w with pending := fs }, f), rest, rw) := by
  simp [takeNext, h]

theorem takeNext_cons_nil (w : Work) (rest : List Work) (rw : List Nat) (h : w.pending = []) :
    takeNext (w :: rest) rw = takeNext rest (retire w.wid rw) := by
  simp [takeNext, h]

theorem loopTop_head (wid f : Nat) (fs : List Nat) (rest : List Work) (rw : List Nat) :
    loopTop (some (⟨wid, f :: fs⟩ :: rest)) rw = (.running ⟨wid, fs⟩ f, some rest, rw) := rfl

theorem relook_of_closed {s : St} (i : Nat) (hq : s.wq = none) :
    relook s i = setWorker s i .exited none s.rwork := by
  simp [relook, hq, loopTop]

theorem relook_head {s : St} (i : Nat) {wid f : Nat} {fs : List Nat} {rest : List Work}
    (hq : s.wq = some (⟨wid, f :: fs⟩ :: rest)) :
    relook s i = setWorker s i (.running ⟨wid, fs⟩ f) (some rest) s.rwork := by
  rw [relook, hq, loopTop_head]

theorem takeNext_none {q : List Work} {rw : List Nat} (h : (takeNext q rw).1 = none) : (takeNext q rw).2.1 = [] := by
  fun_induction takeNext q rw with
  | case1 => rfl
  | case2 => cases h
  | case3 _ _ _ _ ih => exact ih h

theorem takeNext_subset (q : List Work) (rw : List Nat) : ∀ w ∈ (takeNext q rw).2.1, w ∈ q := by
  fun_induction takeNext q rw with
  | case1 => exact fun _ h => h
  | case2 => exact fun _ h => List.mem_cons_of_mem _ h
  | case3 _ _ _ _ ih => exact fun w h => List.mem_cons_of_mem _ (ih w h)

/-- the function `closeBroadcast` maps over the workers; `broadcast` spells it as `step` does, so that `Step.sound` holds by
`if_pos`, and proofs rewrite with `broadcast_eq` -/
def bcast : WState → WState
  | .waiting _ => .waiting true
  | x => x

theorem broadcast_eq (s : St) : broadcast s = { s with workers := s.workers.map bcast } := by
  simp only [broadcast]; congr

theorem ne_waiting_of_mem_map_bcast {l : List WState} : ∀ ws ∈ l.map bcast, ws ≠ .waiting false := by
  intro ws hws
  obtain ⟨x, _, rfl⟩ := List.mem_map.mp hws
  cases x <;> simp [bcast]

end GoRes.Pool
