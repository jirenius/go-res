import GoRes.Model.GetReq
/-! Once a Get handler has replied its state is frozen: every later action does nothing or panics, so the
rest of the script and the end of `execute` leave the state as it is (`settle_replied`).  That is what
makes the first reply decide (`C04.nested_value_first_reply_decides`). -/
namespace GoRes.GetReq

theorem act_replied (s : St) (h : s.replied = true) (a : Act) :
    (act s a = .cont s) ∨ (∃ p, act s a = .panicked s p) := by
  cases a with
  | timeout | forValue => exact .inl rfl
  | value | requireValue | panic p => exact .inr ⟨_, rfl⟩
  | _ => exact .inr ⟨_, if_pos h⟩

/-- the end of `execute`, the missing-response error or the recover arm, under a name:
`execute true m sc = settle m (runScript {} sc)` by `rfl` -/
def settle (missing : Str) : R → St
  | .cont s => if s.replied then s else { s with replied := true, err := some (.res codeInternal missing) }
  | .panicked s p => recover s p

theorem settle_replied (missing : Str) (s : St) (script : List Act) (h : s.replied = true) :
    settle missing (runScript s script) = s := by
  induction script with
  | nil => exact if_pos h
  | cons a r ih =>
    rcases act_replied s h a with h1 | ⟨p, h1⟩ <;> rw [runScript, h1]
    · exact ih
    · exact if_pos h

end GoRes.GetReq
