import GoRes.Model.Pattern
import GoRes.Lemmas.Basic
import GoRes.Lemmas.Tok
/-! A pattern as a string and as a token list.  `render` writes a token list out; on well-formed
tokens `splitDots` and `parseTok` read it back (`splitDots_render`, `parseTok_render`,
`render_parseTok`), because such tokens are non-empty and dot-free (`Tok.ok_sOk`, from the byte
classes `okc`, `litOk_cases`).  `IsValid` accepts exactly the strings `parse` reads
(`isValidLoop_spec`, `isValid_eq_parse`), and what `parse` reads renders back to the string
(`parse_some`).  Registration in the mux needs this much of the patterns; the other scanners are
in `Lemmas/Pattern.lean`.  A rendered list is taken apart as `render_cons`: first token, then
`rrest`.  Bytes are written as numerals: `$` 36, `*` 42, `.` 46, `>` 62, `?` 63. -/
namespace GoRes.Pattern
open Ch

attribute [local simp] Ch.dot Ch.dollar Ch.star Ch.gt Ch.qmark

/-! ## rendered strings -/

/-- the part of a rendered pattern after its first token -/
def rrest (ps : List Tok) : Str :=
  match ps with
  | [] => []
  | t :: r => 46 :: render (t :: r)

theorem render_cons (t : Tok) (ps : List Tok) : render (t :: ps) = t.render ++ rrest ps := by
  cases ps <;> simp [render, joinDots, rrest]

@[simp] theorem render_nil : render [] = [] := rfl

@[simp] theorem rrest_nil : rrest [] = [] := rfl

theorem rrest_cons (t : Tok) (r : List Tok) : rrest (t :: r) = 46 :: render (t :: r) := rfl

theorem render_append (a b : List Tok) (ha : a ≠ []) (hb : b ≠ []) :
    render (a ++ b) = render a ++ 46 :: render b := by
  simp only [render, List.map_append]
  exact joinDots_append (mt List.map_eq_nil_iff.1 ha) (mt List.map_eq_nil_iff.1 hb)

/-! ## the bytes of well-formed tokens -/

/-- character class of non-first bytes of tokens -/
def okc (x : Nat) : Bool := okChar x && x ≠ star && x ≠ gt

theorem okc_iff (x : Nat) : okc x = true ↔ (33 ≤ x ∧ x ≤ 126 ∧ x ≠ 63 ∧ x ≠ 46 ∧ x ≠ 42 ∧ x ≠ 62) := by
  simp only [okc, okChar, Bool.and_eq_true, decide_eq_true_eq, and_assoc, star, gt, qmark, dot]

/-- the class as the Go validators write it -/
theorem okc_eq_not (x : Nat) :
    okc x = !(decide (x < 33) || decide (x > 126) || decide (x = 63) || decide (x = 42) ||
      decide (x = 62) || decide (x = 46)) := by
  -- with the negation pushed inside, both sides are the same six conditions in another order
  simp only [okc, okChar, Bool.not_or, ← decide_not, Nat.not_lt, star, gt, qmark, dot, ne_eq,
    gt_iff_lt, Bool.and_assoc]
  ac_rfl

theorem okChar_iff (x : Nat) : okChar x = true ↔ (33 ≤ x ∧ x ≤ 126 ∧ x ≠ 63 ∧ x ≠ 46) := by
  simp only [okChar, Bool.and_eq_true, decide_eq_true_eq, and_assoc, qmark, dot]

theorem litOk_cons_eq (c : Nat) (r : Str) :
    litOk (c :: r) = (okChar c && c ≠ 36 && c ≠ 42 && c ≠ 62 && r.all okc) := rfl

theorem tagOk_eq (n : Str) : tagOk n = (n.all okc && n.any (fun x => x ≠ 36)) := rfl

theorem litOk_cons_iff (c : Nat) (r : Str) :
    litOk (c :: r) = true ↔
      (33 ≤ c ∧ c ≤ 126 ∧ c ≠ 63 ∧ c ≠ 46 ∧ c ≠ 36 ∧ c ≠ 42 ∧ c ≠ 62) ∧ ∀ x ∈ r, okc x = true := by
  simp only [litOk, okc, okChar, Bool.and_eq_true, decide_eq_true_eq, and_assoc, List.all_eq_true,
    star, gt, qmark, dot, dollar]

theorem tagOk_iff (n : Str) :
    tagOk n = true ↔ (∀ x ∈ n, okc x = true) ∧ ∃ x ∈ n, x ≠ 36 := by
  simp only [tagOk, okc, Bool.and_eq_true, List.all_eq_true, List.any_eq_true, decide_eq_true_eq,
    dollar, and_assoc]

theorem litOk_cases {s : Str} (h : litOk s = true) :
    ∃ c a, s = c :: a ∧ (c ≠ 46 ∧ c ≠ 36 ∧ c ≠ 42 ∧ c ≠ 62) ∧ ∀ x ∈ c :: a, okc x = true := by
  cases s with
  | nil => exact absurd h (by decide)
  | cons c a =>
    obtain ⟨⟨h1, h2, h3, h46, h36, h42, h62⟩, ha⟩ := (litOk_cons_iff c a).1 h
    exact ⟨c, a, rfl, ⟨h46, h36, h42, h62⟩,
      List.forall_mem_cons.2 ⟨(okc_iff c).2 ⟨h1, h2, h3, h46, h42, h62⟩, ha⟩⟩

theorem okChar_of_okc {x : Nat} (h : okc x = true) : okChar x = true := by
  rw [okc, Bool.and_eq_true, Bool.and_eq_true] at h
  exact h.1.1

theorem noDot_of_okc {s : Str} (h : ∀ x ∈ s, okc x = true) : NoDot s :=
  fun x hx => ((okc_iff x).1 (h x hx)).2.2.2.1

theorem Tok.ok_render {t : Tok} (h : t.ok = true) :
    t.render ≠ [] ∧ ∀ x ∈ t.render, okChar x = true := by
  cases t with
  | lit s =>
    obtain ⟨c, a, rfl, -, hs⟩ := litOk_cases h
    exact ⟨List.cons_ne_nil _ _, fun x hx => okChar_of_okc (hs x hx)⟩
  | tag n =>
    have hn := ((tagOk_iff n).1 h).1
    exact ⟨List.cons_ne_nil _ _, List.forall_mem_cons.2 ⟨rfl, fun x hx => okChar_of_okc (hn x hx)⟩⟩
  | star => exact ⟨List.cons_ne_nil _ _, by decide⟩
  | full => exact ⟨List.cons_ne_nil _ _, by decide⟩

theorem Tok.gt_mem_render {t : Tok} (h : t.ok = true) : 62 ∈ t.render ↔ t = .full := by
  have no : ∀ {s : Str}, (∀ x ∈ s, okc x = true) → 62 ∉ s := fun hs hm => absurd (hs 62 hm) (by decide)
  cases t with
  | lit s =>
    obtain ⟨c, a, rfl, -, hs⟩ := litOk_cases h
    simpa using no hs
  | tag n => simpa using no ((tagOk_iff n).1 h).1
  | star => simp
  | full => simp

/-- what the scanners need of a token of the string a pattern is compared with (`s` in `pattern.go`): not empty, no dot -/
def Tok.sOk (t : Tok) : Prop := t.render ≠ [] ∧ NoDot t.render

theorem Tok.ok_sOk {t : Tok} (h : t.ok = true) : t.sOk :=
  ⟨(Tok.ok_render h).1, fun x hx => ((okChar_iff x).1 ((Tok.ok_render h).2 x hx)).2.2.2⟩

theorem isName_sOk {st : List Tok} (h : isName st = true) : ∀ n ∈ st, n.sOk :=
  fun n hn => Tok.ok_sOk ((isName_isLits h).ok n hn)

theorem wfPat_sOk {ts : List Tok} (h : wfPat ts = true) : ∀ n ∈ ts, n.sOk :=
  fun n hn => Tok.ok_sOk (wfPat_all_ok h n hn)

theorem render_isEmpty {ts : List Tok} (h : ∀ n ∈ ts, n.sOk) : (render ts).isEmpty = ts.isEmpty := by
  cases ts with
  | nil => rfl
  | cons t r => rw [render_cons]; simp [(h t List.mem_cons_self).1]

theorem render_ne_nil {ts : List Tok} (hne : ts ≠ []) (hw : wfPat ts = true) : render ts ≠ [] := by
  rwa [← List.isEmpty_eq_false_iff, render_isEmpty (wfPat_sOk hw), List.isEmpty_eq_false_iff]

theorem Tok.lit_eq_iff_render {s : Str} (hs : litOk s = true) (n : Tok) :
    Tok.lit s = n ↔ s = n.render := by
  obtain ⟨c, a, rfl, hc, -⟩ := litOk_cases hs
  cases n <;> simp [hc]

/-! ## the tokeniser -/

theorem splitDots_render {ts : List Tok} (hne : ts ≠ []) (h : ∀ n ∈ ts, n.sOk) :
    splitDots (render ts) = ts.map Tok.render :=
  splitDots_joinDots (mt List.map_eq_nil_iff.1 hne) (List.forall_mem_map.2 fun n hn => (h n hn).2)

theorem render_parseTok (t : Str) : (parseTok t).render = t := by
  fun_cases parseTok t with
  | case3 c r _ h | case4 c r _ _ h => obtain ⟨rfl, rfl⟩ := h; rfl
  | _ => rfl

theorem parseTok_render {t : Tok} (h : t.ok = true) : parseTok t.render = t := by
  cases t with
  | lit s =>
    obtain ⟨c, a, rfl, hc, -⟩ := litOk_cases h
    simp [parseTok, hc]
  | _ => rfl

theorem Tok.render_inj {t n : Tok} (ht : t.ok = true) (hn : n.ok = true) :
    t.render = n.render ↔ t = n :=
  ⟨fun h => by rw [← parseTok_render ht, h, parseTok_render hn], fun h => h ▸ rfl⟩

theorem render_map_parseTok (l : List Str) : render (l.map parseTok) = joinDots l := by
  simp [render, List.map_map, Function.comp_def, render_parseTok]

/-! ## IsValid -/

theorem isValidLoop_other {c : Nat} (h46 : c ≠ 46) (h36 : c ≠ 36) (h42 : c ≠ 42) (h62 : c ≠ 62)
    (s a e : Bool) (r : Str) :
    isValidLoop s a e (c :: r) = (!a && okc c && isValidLoop false a false r) := by
  have hc : (decide (c < 33) || decide (c > 126) || decide (c = 63)) = !okc c := by
    simp [okc_eq_not, h46, h42, h62]
  rw [isValidLoop]
  simp only [dot, qmark, gt, star, dollar, h46, h36, h42, h62, if_false, Bool.or_assoc, hc]
  cases a <;> cases okc c <;> rfl

/-- `IsValid` in terms of the tokens ahead, `t` being what is left of the current one: at a token
start, and inside a token (`a`: a `*` has been read, `e`: a `$` and only `$` since) -/
theorem isValidLoop_spec (r : Str) : ∀ t ts, splitDots r = t :: ts →
    isValidLoop true false false r = wfPat ((t :: ts).map parseTok) ∧
    ∀ a e, isValidLoop false a e r =
      ((if a then t.isEmpty else t.all okc) && (!e || t.any (fun x => x ≠ 36)) &&
        wfPat (ts.map parseTok)) := by
  induction r with
  | nil =>
    intro t ts h
    obtain ⟨rfl, rfl⟩ := List.cons.inj h
    exact ⟨rfl, fun a e => by cases a <;> cases e <;> rfl⟩
  | cons c r ih =>
    intro t ts h
    obtain ⟨t', ts', h'⟩ := splitDots_exists r
    obtain ⟨i1, i2⟩ := ih t' ts' h'
    by_cases hdot : c = 46
    · subst hdot
      rw [splitDots_dot, h'] at h
      obtain ⟨rfl, rfl⟩ := List.cons.inj h
      -- an empty token is none; past the dot a token starts, unless a `$` is all there was (`e`)
      refine ⟨rfl, fun a e => ?_⟩
      cases e
      · cases a <;> exact i1
      · cases a <;> rfl
    · rw [splitDots_cons hdot h'] at h
      obtain ⟨rfl, rfl⟩ := List.cons.inj h
      by_cases h36 : c = 36
      · subst h36
        -- first conjunct, here and for `*` and `>`: one step of the loop and `i2` for the rest of
        -- this token, against `wfPat_cons` on the token `parseTok` makes of this byte and `t'`
        refine ⟨by simp [isValidLoop, i2, parseTok, wfPat_cons, Tok.ok, tagOk_eq], fun a e => ?_⟩
        cases a
        · exact i2 false e
        · rfl
      · by_cases h42 : c = 42
        · subst h42
          -- inside a token `*` is refused: both sides compute to `false`, and so for `>` below
          refine ⟨?_, fun a e => by cases a <;> rfl⟩
          cases t' <;> simp [isValidLoop, i2, parseTok, wfPat_cons, Tok.ok, litOk_cons_eq]
        · by_cases h62 : c = 62
          · subst h62
            -- `>` must be the last byte: the current token and the token list end here
            have hr : r = [] ↔ t' = [] ∧ ts' = [] := by
              rw [← joinDots_splitDots r, h', joinDots_eq_nil_iff]; simp
            refine ⟨?_, fun a e => by cases a <;> rfl⟩
            rw [Bool.eq_iff_iff]
            cases t' <;> simp [isValidLoop, hr, i2, parseTok, wfPat_cons, Tok.ok, litOk_cons_eq]
          · -- any other byte: a literal starts or the token goes on, if the byte is in the class
            have hlit : (parseTok (c :: t')).ok = (okc c && t'.all okc) := by
              simp [parseTok, h36, h42, h62, Tok.ok, litOk_cons_eq, okc]
            refine ⟨?_, fun a e => ?_⟩
            · rw [isValidLoop_other hdot h36 h42 h62, i2, List.map_cons, wfPat_cons, hlit]
              simp [parseTok, h36, h42, h62, Bool.and_assoc]
            · rw [isValidLoop_other hdot h36 h42 h62, i2]
              cases a <;> simp [h36, Bool.and_assoc]

theorem isValid_eq_parse (p : Str) : isValid p = (parse p).isSome := by
  cases p with
  | nil => simp [isValid, parse]
  | cons c r =>
    obtain ⟨t, ts, h⟩ := splitDots_exists (c :: r)
    have := (isValidLoop_spec (c :: r) t ts h).1
    rw [← h] at this
    simp only [isValid, parse, List.isEmpty_cons, Bool.false_eq_true, if_false, this]
    cases wfPat ((splitDots (c :: r)).map parseTok) <;> rfl

theorem parse_some {p : Str} {ts : List Tok} (hne : p ≠ []) (h : parse p = some ts) :
    wfPat ts = true ∧ render ts = p ∧ ts ≠ [] := by
  simp only [parse, List.isEmpty_iff, hne, if_false] at h
  split at h
  · rename_i hw
    simp at h
    subst h
    refine ⟨hw, ?_, ?_⟩
    · rw [render_map_parseTok, joinDots_splitDots]
    · simp [splitDots_ne_nil]
  · simp at h

end GoRes.Pattern
