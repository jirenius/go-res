import GoRes.Model.Req
/-! The request model read through one relation.  Every action of a handler script is a step
`Next r s s'` of one of four kinds: nothing, the one response, auxiliary effects, a change of the
response meta (`act_next`); so is the end of `executeHandler` after the script (`finish_next`).  What
all four kinds keep therefore holds after any handler run (`runScript_next`, `handler_ind`).  The
invariant the properties C04, C05 and C07 read is `Log`: auxiliary effects around at most one
response; `process_log` states it for a whole request.  For C08 the event methods are computed apart,
as `stepSt (act …) = addAll s es` with `es` independent of the state (`fired`, `act_change` …).
Subject splitting (C05) needs only `cut_at`, at the end. -/
namespace GoRes.Req
open GoRes

/-! ## what tells a response from the other publications: the subject, and `isPre` of the payload -/
@[simp] theorem isPre_obj (ms : List (Str × Str)) : isPre (obj ms) = false := by
  simp [isPre, obj, List.isPrefixOf]
@[simp] theorem isPre_withMeta (ms : List (Str × Str)) (m : Option Str) : isPre (withMeta ms m) = false := by
  simp [withMeta]
@[simp] theorem isPre_respError (c msg : Str) (m : Option Str) : isPre (respError c msg m) = false := by
  simp [respError]
@[simp] theorem isPre_respResult (v : Str) (m : Option Str) : isPre (respResult v m) = false := by
  simp [respResult]
@[simp] theorem isPre_missing : isPre missingResponse = false := isPre_respError ..
@[simp] theorem isPre_timeout (x : Str) : isPre (b!"timeout:\"" ++ x) = true := by
  simp [isPre, List.isPrefixOf]
@[simp] theorem evSubj_ne_reply (r : ReqIn) (n : Str) : evSubj r n ≠ replySubj := by
  simp [evSubj, replySubj]
@[simp] theorem conn_ne_reply (c : Str) : b!"conn." ++ c ++ b!".token" ≠ replySubj := by
  simp [replySubj]

/-! ## the log is written by `addAll` alone: `emit` and `svcEvent` in its terms -/
theorem emit_eq_addAll (s : St) (e : Eff) : emit s e = addAll s [e] := rfl
@[simp] theorem addAll_addAll (s : St) (a b : List Eff) : addAll (addAll s a) b = addAll s (a ++ b) := by
  simp [addAll]
theorem addAll_nil (s : St) : addAll s [] = s := by simp [addAll]
@[simp] theorem addAll_effs (s : St) (a : List Eff) : (addAll s a).effs = s.effs ++ a := rfl
@[simp] theorem addAll_replied (s : St) (a : List Eff) : (addAll s a).replied = s.replied := rfl
@[simp] theorem addAll_mt (s : St) (a : List Eff) : (addAll s a).mt = s.mt := rfl
theorem drop_of_addAll {st : Step} {s : St} {es : List Eff} (h : stepSt st = addAll s es) :
    (stepSt st).effs.drop s.effs.length = es := by
  rw [h]; exact List.drop_left
theorem svcEvent_none (s : St) (subj : Str) : svcEvent s subj none = addAll s [.pub subj []] := rfl
/-- what `Service.event` publishes -/
def pubEffs (subj : Str) : Option JV → List Eff
  | none => [.pub subj []]
  | some v => if v.ok then [.pub subj v.text] else []
theorem svcEvent_eq (s : St) (subj : Str) (p : Option JV) : svcEvent s subj p = addAll s (pubEffs subj p) := by
  cases p with
  | none => rfl
  | some v => simp only [svcEvent, pubEffs]; split <;> simp [emit_eq_addAll, addAll_nil]

@[simp] theorem stepSt_cont (s : St) : stepSt (.cont s) = s := rfl
@[simp] theorem stepSt_panic (s : St) (p : PanicV) : stepSt (.panic s p) = s := rfl
@[simp] theorem stepSt_strPanic (s : St) (w : String) : stepSt (strPanic s w) = s := rfl

/-! ## what one step can do -/

/-- structure of a response payload; `m0` is the meta object it may carry -/
inductive RespShape (m0 : Option Str) : Str → Prop
  | result (v : Str) (m : Option Str) : (m = none ∨ m = m0) → RespShape m0 (withMeta [(b!"result", v)] m)
  | resource (rid : Str) (m : Option Str) : (m = none ∨ m = m0) → isValidRIDB rid = true →
      RespShape m0 (withMeta [(b!"resource", refObj rid)] m)
  | error (c msg : Str) (m : Option Str) : (m = none ∨ m = m0) → RespShape m0 (withMeta [(b!"error", errObj c msg)] m)

theorem RespShape.isPre {m0 : Option Str} {p : Str} (h : RespShape m0 p) : isPre p = false := by
  cases h <;> simp

/-- an effect that is not a response -/
inductive Aux (r : ReqIn) : Eff → Prop
  | apply (k : String) : Aux r (.apply k)
  | listener (i : Nat) (n : Str) : Aux r (.listener i n)
  | ev (name payload : Str) :
      (name ∈ [b!"change", b!"add", b!"remove", b!"create", b!"delete", b!"reaccess"] ∨
        (isValidPartB name = true ∧ name ∉ reserved)) → Aux r (.pub (evSubj r name) payload)
  | tok (payload : Str) : Aux r (.pub (b!"conn." ++ r.cid ++ b!".token") payload)
  | pre (ms : Int) : 0 ≤ ms → Aux r (.pub replySubj (b!"timeout:\"" ++ intText ms ++ [34]))

def AllAux (r : ReqIn) (es : List Eff) : Prop := ∀ e ∈ es, Aux r e

@[simp] theorem allAux_nil (r : ReqIn) : AllAux r [] := nofun
@[simp] theorem allAux_cons (r : ReqIn) (e : Eff) (es : List Eff) : AllAux r (e :: es) ↔ Aux r e ∧ AllAux r es :=
  List.forall_mem_cons
@[simp] theorem allAux_append (r : ReqIn) (a b : List Eff) : AllAux r (a ++ b) ↔ AllAux r a ∧ AllAux r b :=
  List.forall_mem_append
@[simp] theorem allAux_listeners (r : ReqIn) (cfg : HCfg) (n : Str) : AllAux r (listenersOf cfg n) :=
  List.forall_mem_map.2 fun i _ => .listener i n

@[simp] theorem aux_apply (r : ReqIn) (k : String) : Aux r (.apply k) := .apply k
@[simp] theorem aux_tok (r : ReqIn) (p : Str) : Aux r (.pub (b!"conn." ++ r.cid ++ b!".token") p) := .tok p
theorem reserved_contains_false {name : Str} (h : reserved.contains name = false) : name ∉ reserved := by
  simpa using h

theorem allAux_pubEffs {r : ReqIn} {subj : Str} (h : ∀ p, Aux r (.pub subj p)) (pl : Option JV) :
    AllAux r (pubEffs subj pl) := by
  cases pl with
  | none => simp [pubEffs, h]
  | some v => simp only [pubEffs]; split <;> simp [h]

/-- the possible effects of one step on the state -/
inductive Next (r : ReqIn) (s : St) : St → Prop
  | same : Next r s s
  | reply (p : Str) : s.replied = false → RespShape (metaOf s) p →
      Next r s { s with replied := true, effs := s.effs ++ [.pub replySubj p] }
  | aux (es : List Eff) : AllAux r es → Next r s (addAll s es)
  | setMeta (mt : Meta) : r.isHTTP = true → s.replied = false → Next r s { s with mt := mt }

section
variable {r : ReqIn} {s : St}

theorem next_ite {c : Prop} [Decidable c] {a b : Step}
    (ha : c → Next r s (stepSt a)) (hb : ¬ c → Next r s (stepSt b)) : Next r s (stepSt (if c then a else b)) :=
  iteInduction (motive := fun st => Next r s (stepSt st)) ha hb

theorem reply_effs (hr : s.replied = false) (p : Str) : (stepSt (reply s p)).effs = s.effs ++ [.pub replySubj p] := by
  rw [reply, if_neg (by simp [hr])]; rfl

theorem next_reply {p : Str} (h : RespShape (metaOf s) p) : Next r s (stepSt (reply s p)) :=
  next_ite (fun _ => .same) fun hr => .reply p (by simpa using hr) h

theorem next_success {v : JV} {m : Option Str} (hm : m = none ∨ m = metaOf s) : Next r s (stepSt (success s v m)) :=
  next_ite (fun _ => next_reply (.result _ _ hm)) fun _ => next_reply (.error _ _ _ (.inl rfl))

theorem next_emit {e : Eff} (h : Aux r e) : Next r s (emit s e) :=
  .aux [e] (List.forall_mem_singleton.2 h)

theorem next_addAll {st : Step} {es : List Eff} (h : stepSt st = addAll s es) (hes : AllAux r es) :
    Next r s (stepSt st) :=
  h ▸ .aux es hes

end

theorem errMeta_cases (e : ErrV) (m : Option Str) : errMeta e m = none ∨ errMeta e m = m := by
  cases e <;> simp [errMeta]

/-! ## events

Whatever its argument checks and its apply handler decide, an event method leaves `addAll s es` for a
list `es` that does not depend on `s`.  The five resource events share their tail (`fired`).  Each
equation below is `act` unfolded: `stepSt_guard` passes an argument check, `stepSt_fire` the tail. -/

/-- what an event method adds to the log once its arguments are accepted -/
def fired (cfg : HCfg) (r : ReqIn) (ap : Apply) (kind : String) (name : Str) (pl : Option JV) : List Eff :=
  if ap = .err then [.apply kind]
  else (if ap = .absent then [] else [.apply kind]) ++ pubEffs (evSubj r name) pl ++ listenersOf cfg name

section
variable {cfg : HCfg} {r : ReqIn} {ap : Apply} {kind : String} {name : Str} {pl : Option JV}

theorem fired_of_err (h : ap = .err) : fired cfg r ap kind name pl = [.apply kind] :=
  if_pos h
theorem fired_of_ne_err (h : ap ≠ .err) : fired cfg r ap kind name pl =
    (if ap = .absent then [] else [.apply kind]) ++ pubEffs (evSubj r name) pl ++ listenersOf cfg name :=
  if_neg h
theorem allAux_fired (h : ∀ p, Aux r (.pub (evSubj r name) p)) : AllAux r (fired cfg r ap kind name pl) := by
  cases ap <;> simp [fired, allAux_pubEffs h]

end

theorem stepSt_fire (cfg : HCfg) (r : ReqIn) (s : St) (ap : Apply) (kind : String) (name : Str) (pl : Option JV)
    (pv : PanicV) :
    stepSt (if ap = .err then .panic (if ap = .absent then s else emit s (.apply kind)) pv
        else .cont (addAll (svcEvent (if ap = .absent then s else emit s (.apply kind)) (evSubj r name) pl)
          (listenersOf cfg name)))
      = addAll s (fired cfg r ap kind name pl) := by
  cases ap <;> simp [fired, emit_eq_addAll, svcEvent_eq]

theorem stepSt_guard {c : Prop} [Decidable c] {s : St} {a b : Step} {es : List Eff}
    (ha : stepSt a = s) (hb : stepSt b = addAll s es) :
    stepSt (if c then a else b) = addAll s (if c then [] else es) := by
  split
  · rw [ha, addAll_nil]
  · exact hb

theorem stepSt_publish (s : St) (subj : Str) (pl : Option JV) (ls : List Eff) :
    stepSt (.cont (addAll (svcEvent s subj pl) ls)) = addAll s (pubEffs subj pl ++ ls) := by
  rw [stepSt_cont, svcEvent_eq, addAll_addAll]

theorem act_change (cfg : HCfg) (r : ReqIn) (s : St) (props : List (Str × JV)) :
    stepSt (act cfg r s (.change props)) = addAll s (if cfg.typ = 2 then [] else if props.isEmpty then [] else
      if cfg.applyChange = .okEmpty then [.apply "change"] else
      fired cfg r cfg.applyChange "change" (b!"change")
        (some ⟨props.all (·.2.ok), obj [(b!"values", obj (sortMs (props.map fun (k, v) => (k, v.text))))]⟩)) :=
  -- `ChangeEvent` also stops after an apply handler that reports no change, so `act` has a `match` on the
  -- four outcomes here where `stepSt_fire` has an `if`: each of them computes as there
  stepSt_guard rfl (stepSt_guard rfl (by cases cfg.applyChange <;> simp [fired, emit_eq_addAll, svcEvent_eq]))

theorem act_add (cfg : HCfg) (r : ReqIn) (s : St) (v : JV) (idx : Int) :
    stepSt (act cfg r s (.add v idx)) = addAll s (if cfg.typ = 1 then [] else if idx < 0 then [] else
      fired cfg r cfg.applyAdd "add" (b!"add") (some ⟨v.ok, obj [(b!"idx", intText idx), (b!"value", v.text)]⟩)) :=
  stepSt_guard rfl (stepSt_guard rfl (stepSt_fire ..))

theorem act_remove (cfg : HCfg) (r : ReqIn) (s : St) (idx : Int) :
    stepSt (act cfg r s (.remove idx)) = addAll s (if cfg.typ = 1 then [] else if idx < 0 then [] else
      fired cfg r cfg.applyRemove "remove" (b!"remove") (some ⟨true, obj [(b!"idx", intText idx)]⟩)) :=
  stepSt_guard rfl (stepSt_guard rfl (stepSt_fire ..))

theorem act_create (cfg : HCfg) (r : ReqIn) (s : St) (v : JV) :
    stepSt (act cfg r s (.create v)) = addAll s (fired cfg r cfg.applyCreate "create" (b!"create") none) :=
  stepSt_fire ..

theorem act_delete (cfg : HCfg) (r : ReqIn) (s : St) :
    stepSt (act cfg r s .delete) = addAll s (fired cfg r cfg.applyDelete "delete" (b!"delete") none) :=
  stepSt_fire ..

theorem act_custom (cfg : HCfg) (r : ReqIn) (s : St) (name : Str) (pl : Option JV) :
    stepSt (act cfg r s (.custom name pl)) = addAll s (if reserved.contains name then [] else
      if !isValidPartB name then [] else pubEffs (evSubj r name) pl ++ listenersOf cfg name) :=
  stepSt_guard rfl (stepSt_guard rfl (stepSt_publish ..))

theorem act_next (cfg : HCfg) (r : ReqIn) (s : St) (a : Action) : Next r s (stepSt (act cfg r s a)) := by
  cases a with
  | ok v =>
    show Next r s (stepSt (match v, metaOf s with | none, none => _ | none, some m => _ | some v, m => _))
    split
    · exact next_reply (.result _ _ (.inl rfl))
    · exact next_success (.inr (Eq.symm ‹_›))
    · exact next_success (.inr rfl)
  | resource rid =>
    exact next_ite (fun _ => .same) fun h => next_reply (.resource _ _ (.inr rfl) (by simpa using h))
  | error e => exact next_reply (.error _ _ _ (errMeta_cases e _))
  | notFound | methodNotFound | invalidParams msg | invalidQuery msg | accessDenied =>
    exact next_reply (.error _ _ _ (.inr rfl))
  | accessGranted => exact next_reply (.result _ _ (.inr rfl))
  | access get call =>
    exact next_ite (fun _ => next_reply (.error _ _ _ (.inr rfl))) fun _ => next_reply (.result _ _ (.inr rfl))
  | model v query | collection v query =>
    exact next_ite (fun _ => next_reply (.result _ _ (.inl rfl))) fun _ => next_reply (.error _ _ _ (.inl rfl))
  | new rid => exact next_ite (fun _ => .same) fun _ => next_reply (.result _ _ (.inl rfl))
  | timeout ms => exact next_ite (fun _ => .same) fun h => next_emit (.pre ms (by omega))
  | change props =>
    have h p : Aux r (.pub (evSubj r (b!"change")) p) := .ev _ p (.inl (by decide))
    exact next_addAll (act_change ..) (by simp [apply_ite (AllAux r), allAux_fired h])
  | add v idx | remove idx =>
    exact next_ite (fun _ => .same) fun _ => next_ite (fun _ => .same) fun _ =>
      next_addAll (stepSt_fire ..) (allAux_fired fun p => .ev _ p (.inl (by decide)))
  | create v | delete =>
    exact next_addAll (stepSt_fire ..) (allAux_fired fun p => .ev _ p (.inl (by decide)))
  | custom name payload =>
    exact next_ite (fun _ => .same) fun h1 => next_ite (fun _ => .same) fun h2 =>
      have h p : Aux r (.pub (evSubj r name) p) := .ev name p (.inr ⟨by simpa using h2, by simpa using h1⟩)
      next_addAll (stepSt_publish ..) (by simp [allAux_pubEffs h])
  | reaccess => exact next_emit (.ev _ _ (.inl (by decide)))
  | tokenEvent v =>
    show Next r s (stepSt (.cont (svcEvent s _ _)))
    rw [stepSt_cont, svcEvent_eq]; exact .aux _ (allAux_pubEffs (aux_tok r) _)
  | setStatus code | header k v =>
    exact next_ite (fun _ => .same) fun h1 => next_ite (fun _ => .same) fun h2 =>
      .setMeta _ (by simpa using h1) (by simpa using h2)
  | panic p => exact .same
  | parseParams b =>
    show Next r s (stepSt (match r.rawParams with | none => _ | some t => _))
    split
    · exact .same
    · exact next_ite (fun _ => .same) fun _ => .same

/-! ## what `responses` keeps of each effect -/
theorem responses_append (a b : List Eff) : responses (a ++ b) = responses a ++ responses b :=
  List.filterMap_append
theorem responses_reply (p : Str) (h : isPre p = false) : responses [.pub replySubj p] = [p] :=
  List.filterMap_cons_some (if_pos ⟨rfl, by simp [h]⟩)
theorem responses_ne {subj : Str} (h : subj ≠ replySubj) (p : Str) : responses [.pub subj p] = [] :=
  List.filterMap_cons_none (if_neg fun hc => h hc.1)
theorem responses_pre (subj : Str) {p : Str} (h : isPre p = true) : responses [.pub subj p] = [] :=
  List.filterMap_cons_none (if_neg fun hc => by simp [h] at hc)
theorem Aux.not_response {r : ReqIn} {e : Eff} (h : Aux r e) : responses [e] = [] := by
  cases h with
  | apply | listener => rfl
  | ev name p _ => exact responses_ne (evSubj_ne_reply r name) p
  | tok p => exact responses_ne (conn_ne_reply r.cid) p
  | pre ms _ => exact responses_pre _ (by rw [List.append_assoc]; exact isPre_timeout _)
theorem responses_allAux {r : ReqIn} {es : List Eff} (h : AllAux r es) : responses es = [] := by
  induction es with
  | nil => rfl
  | cons e es ih =>
    rw [allAux_cons] at h
    rw [← List.singleton_append, responses_append, h.1.not_response, ih h.2]; rfl

/-- the log of a handler that did nothing but answer with an error -/
theorem responses_seen_error (d c msg : Str) (m : Option Str) :
    responses [.seen d, .pub replySubj (respError c msg m)] = [respError c msg m] :=
  responses_reply _ (isPre_respError c msg m)

/-! ## what a step keeps -/
theorem Next.after_reply {r : ReqIn} {s s' : St} (h : Next r s s') (hr : s.replied = true) :
    responses s'.effs = responses s.effs ∧ s'.replied = true := by
  cases h with
  | same => exact ⟨rfl, hr⟩
  | reply p hr' hp => simp [hr] at hr'
  | aux es hes => simp [responses_append, responses_allAux hes, hr]
  | setMeta mt _ hr' => simp [hr] at hr'

theorem Next.extends {r : ReqIn} {s s' : St} (h : Next r s s') : ∃ d, s'.effs = s.effs ++ d := by
  cases h with
  | same => exact ⟨[], by simp⟩
  | reply p hr' hp => exact ⟨_, rfl⟩
  | aux es hes => exact ⟨_, rfl⟩
  | setMeta mt _ hr' => exact ⟨[], by simp⟩

theorem Next.prefix {r : ReqIn} {s s' : St} (h : Next r s s') : s.effs <+: s'.effs :=
  h.extends.imp fun _ => Eq.symm

theorem Next.meta_http {r : ReqIn} {s s' : St} (h : Next r s s') (hh : r.isHTTP = false) : s'.mt = s.mt := by
  cases h with
  | same => rfl
  | reply p hr' hp => rfl
  | aux es hes => rfl
  | setMeta mt h' hr' => simp [hh] at h'

theorem runScript_next (cfg : HCfg) (r : ReqIn) (P : St → Prop)
    (hstep : ∀ s s', Next r s s' → P s → P s') (script : List Action) (s : St) (h : P s) :
    P (stepSt (runScript cfg r s script)) := by
  induction script generalizing s with
  | nil => exact h
  | cons a as ih =>
    have h1 := hstep s _ (act_next cfg r s a) h
    rw [runScript]
    generalize act cfg r s a = st at h1 ⊢
    cases st with
    | cont s' => exact ih s' h1
    | panic s' p => exact h1

theorem runScript_prefix (cfg : HCfg) (r : ReqIn) (s : St) (script : List Action) :
    s.effs <+: (stepSt (runScript cfg r s script)).effs :=
  runScript_next cfg r (s.effs <+: ·.effs) (fun _ _ hn h => h.trans hn.prefix) script s (List.prefix_refl _)

/-! ## the end of `executeHandler` -/

theorem next_recoverArm (r : ReqIn) (s : St) (p : PanicV) :
    Next r s (recoverArm s p) ∧ (recoverArm s p).replied = true := by
  unfold recoverArm
  cases hr : s.replied with
  | true => exact ⟨.same, hr⟩
  | false =>
    cases p with
    | err e => exact ⟨.reply _ hr (.error _ _ _ (errMeta_cases e _)), rfl⟩
    | lib | str msg | other t => exact ⟨.reply _ hr (.error _ _ _ (Or.inr rfl)), rfl⟩

/-- the tail of `process` after the script, under a name so that `process_eq` holds by `rfl` -/
def finish : Step → List Eff
  | .cont s => if s.replied then s.effs else s.effs ++ [.pub replySubj missingResponse]
  | .panic s p => (recoverArm s p).effs

theorem finish_next (r : ReqIn) (st : Step) :
    ∃ s', Next r (stepSt st) s' ∧ s'.replied = true ∧ finish st = s'.effs := by
  cases st with
  | cont s =>
    cases hr : s.replied with
    | true => exact ⟨s, .same, hr, by simp [finish, hr]⟩
    | false => exact ⟨_, .reply _ hr (.error _ _ _ (Or.inl rfl)), rfl, by simp [finish, hr]; rfl⟩
  | panic s p => exact ⟨_, (next_recoverArm r s p).1, (next_recoverArm r s p).2, rfl⟩

theorem handler_ind (cfg : HCfg) (r : ReqIn) (P : St → Prop)
    (hstep : ∀ s s', Next r s s' → P s → P s') (script : List Action) (s : St) (h : P s) :
    ∃ s', P s' ∧ s'.replied = true ∧ finish (runScript cfg r s script) = s'.effs := by
  obtain ⟨s', hn, hr, he⟩ := finish_next r (runScript cfg r s script)
  exact ⟨s', hstep _ _ hn (runScript_next cfg r P hstep script s h), hr, he⟩

theorem finish_prefix (cfg : HCfg) (r : ReqIn) (s : St) (script : List Action) :
    s.effs <+: finish (runScript cfg r s script) := by
  obtain ⟨s', hp, _, he⟩ := handler_ind cfg r (s.effs <+: ·.effs) (fun _ _ hn h => h.trans hn.prefix) script s
    (List.prefix_refl _)
  exact he ▸ hp

/-! ## the log of a request -/

/-- What a request leaves behind, as the properties read it: auxiliary effects around at most one
response (`b`: it is there), which carries meta only if the request is an HTTP one with a payload. -/
inductive Log (r : ReqIn) : Bool → List Eff → Prop
  | nil : Log r false []
  | seen (d : Str) : Log r false [.seen d]
  | aux {b : Bool} {l es : List Eff} : Log r b l → AllAux r es → Log r b (l ++ es)
  | reply {l : List Eff} {m : Option Str} {p : Str} : Log r false l → RespShape m p →
      (m.isSome → r.isHTTP = true ∧ r.payload = .ok) → Log r true (l ++ [.pub replySubj p])

theorem Log.responses_length {r : ReqIn} {b : Bool} {l : List Eff} (h : Log r b l) :
    (responses l).length = if b then 1 else 0 := by
  induction h with
  | nil => rfl
  | seen d => rfl
  | aux _ hes ih => rw [responses_append, responses_allAux hes, List.append_nil]; exact ih
  | reply _ hp _ ih => rw [responses_append, responses_reply _ hp.isPre, List.length_append, ih]; rfl

theorem Log.responses_eq {r : ReqIn} {l₀ l : List Eff} {p : Str} (h : Log r true l) (hp : l₀ <+: l)
    (h0 : responses l₀ = [p]) : responses l = [p] := by
  have hp' : responses l₀ <+: responses l := hp.filterMap _
  rw [h0] at hp'
  exact (hp'.eq_of_length (by rw [h.responses_length]; rfl)).symm

/-- `Log` of the state so far; the second part is what `Log.reply` will ask of the meta when the handler
replies -/
def LogInv (r : ReqIn) (s : St) : Prop :=
  Log r s.replied s.effs ∧ ((metaOf s).isSome → r.isHTTP = true ∧ r.payload = .ok)

theorem Next.logInv {r : ReqIn} {s s' : St} (hok : r.isHTTP = true → r.payload = .ok) (h : Next r s s')
    (hi : LogInv r s) : LogInv r s' := by
  obtain ⟨h1, h2⟩ := hi
  cases h with
  | same => exact ⟨h1, h2⟩
  | reply p hr hp => rw [hr] at h1; exact ⟨h1.reply hp h2, h2⟩
  | aux es hes => exact ⟨h1.aux hes, h2⟩
  | setMeta mt hh hr => exact ⟨h1, fun _ => ⟨hh, hok hh⟩⟩

theorem Log.static (r : ReqIn) (c m : Str) : Log r true [.pub replySubj (respError c m none)] :=
  Log.nil.reply (m := none) (.error c m none (Or.inl rfl)) (by simp)

/-- the state in which `process` starts the script, named for the same reason as `finish` -/
def seen0 (kind : String) (r : ReqIn) : St := { effs := [.seen (encSeen kind r)] }

theorem finish_log (cfg : HCfg) (r : ReqIn) (kind : String) (script : List Action)
    (hok : r.isHTTP = true → r.payload = .ok) : Log r true (finish (runScript cfg r (seen0 kind r) script)) := by
  obtain ⟨s, hs, hr, he⟩ := handler_ind cfg r (LogInv r) (fun _ _ hn => hn.logInv hok) script (seen0 kind r)
    ⟨.seen _, by simp [metaOf, seen0, Meta.render]⟩
  rw [he, ← hr]; exact hs.1

/-! ## `process`: a static answer, or a handler run on the normalised request -/
/-- the request as the handler sees it: an empty payload leaves the fields at their zero value -/
def normReq (r : ReqIn) : ReqIn :=
  if r.payload = .empty then { r with cid := [], isHTTP := false, rawParams := none, token := none, query := [] } else r

theorem process_eq (cfg : HCfg) (r : ReqIn) (script : List Action) :
    process cfg r script =
      if !r.found then [.pub replySubj (respError codeNotFound (b!"Not found") none)]
      else if r.payload = .bad then [.pub replySubj (respError codeInternal goErr none)]
      else match pick cfg (normReq r) with
        | .noReplyAtAll => []
        | .none => []
        | .reply p => [.pub replySubj p]
        | .invoke kind => finish (runScript cfg (normReq r) (seen0 kind (normReq r)) script) := by
  rfl

@[simp] theorem normReq_rtype (r : ReqIn) : (normReq r).rtype = r.rtype := by unfold normReq; split <;> rfl
@[simp] theorem normReq_rname (r : ReqIn) : (normReq r).rname = r.rname := by unfold normReq; split <;> rfl
@[simp] theorem normReq_method (r : ReqIn) : (normReq r).method = r.method := by unfold normReq; split <;> rfl
theorem normReq_of_ne_empty (r : ReqIn) (h : r.payload ≠ .empty) : normReq r = r := by simp [normReq, h]
theorem normReq_http_ok (r : ReqIn) (hb : r.payload ≠ .bad) (h : (normReq r).isHTTP = true) :
    (normReq r).payload = .ok := by
  cases hp : r.payload with
  | empty => simp [normReq, hp] at h
  | bad => exact absurd hp hb
  | ok => simp [normReq, hp]

theorem process_invoke {cfg : HCfg} {r : ReqIn} {kind : String} (script : List Action)
    (hf : r.found = true) (hb : r.payload ≠ .bad) (hk : pick cfg (normReq r) = .invoke kind) :
    process cfg r script = finish (runScript cfg (normReq r) (seen0 kind (normReq r)) script) := by
  simp [process_eq, hf, hb, hk]

theorem process_ok {cfg : HCfg} {r : ReqIn} {kind : String} (script : List Action)
    (hf : r.found = true) (hp : r.payload = .ok) (hk : pick cfg r = .invoke kind) :
    process cfg r script = finish (runScript cfg r (seen0 kind r) script) := by
  have hn : normReq r = r := normReq_of_ne_empty r (by simp [hp])
  rw [process_invoke script hf (by simp [hp]) (by rw [hn]; exact hk), hn]

/-- what `pick` can say; a predicate on `Pick`, so that `pick_spec` has it as the motive of its case analysis -/
def Pick.Spec (silent : Prop) : Pick → Prop
  | .noReplyAtAll => silent
  | .none => False
  | .reply p => ∃ c m, p = respError c m Option.none
  | .invoke _ => True

theorem pick_spec (cfg : HCfg) (r : ReqIn) : (pick cfg r).Spec (r.rtype = .access ∧ cfg.hasAccess = false) := by
  unfold pick
  split
  · exact iteInduction (fun _ => trivial) fun h => ⟨‹_›, by simpa using h⟩
  · exact iteInduction (fun _ => trivial) fun _ => ⟨_, _, rfl⟩
  · exact iteInduction (fun _ => trivial) fun _ => iteInduction (fun _ => trivial) fun _ =>
      iteInduction (fun _ => trivial) fun _ => ⟨_, _, rfl⟩
  · exact iteInduction (fun _ => trivial) fun _ => iteInduction (fun _ => trivial) fun _ => ⟨_, _, rfl⟩

theorem process_log (cfg : HCfg) (r : ReqIn) (script : List Action) :
    (Unanswered cfg r ∧ process cfg r script = []) ∨
    (¬ Unanswered cfg r ∧ Log (normReq r) true (process cfg r script)) := by
  by_cases hU : Unanswered cfg r
  · have ⟨h1, hf, hb, h2⟩ := hU
    exact .inl ⟨hU, by simp [process_eq, hf, hb, pick, h1, h2]⟩
  · refine .inr ⟨hU, ?_⟩
    by_cases hf : r.found = true
    · by_cases hb : r.payload = .bad
      · simp only [process_eq, hf, hb]; exact .static _ _ _
      · match h : pick cfg (normReq r), pick_spec cfg (normReq r) with
        | .none, hs => exact hs.elim
        | .noReplyAtAll, hs => exact absurd ⟨by simpa using hs.1, hf, hb, hs.2⟩ hU
        | .reply _, ⟨c, m, rfl⟩ => simp only [process_eq, hf, hb, h]; exact .static _ _ _
        | .invoke kind, _ => rw [process_invoke script hf hb h]; exact finish_log _ _ _ _ (normReq_http_ok r hb)
    · simp only [process_eq, hf]; exact .static _ _ _

/-! ## subject splitting: the cut `splitSubject` makes at a dot with `takeWhile` and `drop` (C05) -/
theorem cut_at (t x : Str) (d : Nat) (ht : ∀ c ∈ t, c ≠ d) :
    (t ++ d :: x).takeWhile (· ≠ d) = t ∧ (t ++ d :: x).drop (t.length + 1) = x := by
  refine ⟨?_, ?_⟩
  · rw [List.takeWhile_append_of_pos (by simpa using ht), List.takeWhile_cons_of_neg (by simp), List.append_nil]
  · rw [List.drop_append]; simp

end GoRes.Req
