import GoRes.Model.Mux
import GoRes.Lemmas.PatternParse
/-! The trie of `mux.go` in a single mux (through a mounted sub-mux: `Lemmas/MuxMount.lean`), its
three kinds of children handled as one through `child` / `setChild`.
Lookup: `matchNode` has one specification, `Finds` (`tryChild_finds`): no answer only if no stored
pattern with a handler matches, an answer is a most specific one; `matchNode_spec` and
`matchNode_complete` are its two readings.
Registration: `fetch` is the per-token check `tokErr`, then the call along the edge `elemOf t`
(`fetch_none_cons`).  Whether it panics depends on the tokens alone (`toksErr`; never on a well-formed
pattern with distinct tags, `toksErr_wf`); what it does to the tree is `putAt`, an alteration of the
node under the token path (`fetch_eq_putAt`), and what is stored where afterwards is read off
`getAt_putAt`.  `AddHandler` and `AddListener` are `regAt` with the continuation `addK` or `listenK`
(`addAt_eq`, `addListenerAt_eq`): start from `regAt_cases` (`addAt_ok` after a success) and
`addK_cases` / `listenK_cases`.  `Good` is the invariant under which `GetHandler` cannot panic
(`Good.regAt`, `getHandler_ne_panic`).  What lookup reports after one registration on the empty
mux: `addHandlerAt_empty_found`, `paramValues_spec`. -/
namespace GoRes.Mux
open Ch
open GoRes.Pattern (Tok parseTok tagsOf distinctTags wfPat mapGet mapSet)

/-! ## accessors: each field after each setter, and of `Node.empty` -/
@[simp] theorem Node.hs_setHs (n : Node) (h) : (n.setHs h).hs = h := by cases n; rfl
@[simp] theorem Node.params_setHs (n : Node) (h) : (n.setHs h).params = n.params := by cases n; rfl
@[simp] theorem Node.listeners_setHs (n : Node) (h) : (n.setHs h).listeners = n.listeners := by cases n; rfl
@[simp] theorem Node.mounted_setHs (n : Node) (h) : (n.setHs h).mounted = n.mounted := by cases n; rfl
@[simp] theorem Node.lits_setHs (n : Node) (h) : (n.setHs h).lits = n.lits := by cases n; rfl
@[simp] theorem Node.param_setHs (n : Node) (h) : (n.setHs h).param = n.param := by cases n; rfl
@[simp] theorem Node.wild_setHs (n : Node) (h) : (n.setHs h).wild = n.wild := by cases n; rfl
@[simp] theorem Node.hs_setParams (n : Node) (p) : (n.setParams p).hs = n.hs := by cases n; rfl
@[simp] theorem Node.params_setParams (n : Node) (p) : (n.setParams p).params = p := by cases n; rfl
@[simp] theorem Node.listeners_setParams (n : Node) (p) : (n.setParams p).listeners = n.listeners := by cases n; rfl
@[simp] theorem Node.mounted_setParams (n : Node) (p) : (n.setParams p).mounted = n.mounted := by cases n; rfl
@[simp] theorem Node.lits_setParams (n : Node) (p) : (n.setParams p).lits = n.lits := by cases n; rfl
@[simp] theorem Node.param_setParams (n : Node) (p) : (n.setParams p).param = n.param := by cases n; rfl
@[simp] theorem Node.wild_setParams (n : Node) (p) : (n.setParams p).wild = n.wild := by cases n; rfl
@[simp] theorem Node.hs_setMounted (n : Node) (b) : (n.setMounted b).hs = n.hs := by cases n; rfl
@[simp] theorem Node.params_setMounted (n : Node) (b) : (n.setMounted b).params = n.params := by cases n; rfl
@[simp] theorem Node.listeners_setMounted (n : Node) (b) : (n.setMounted b).listeners = n.listeners := by cases n; rfl
@[simp] theorem Node.mounted_setMounted (n : Node) (b) : (n.setMounted b).mounted = b := by cases n; rfl
@[simp] theorem Node.lits_setMounted (n : Node) (b) : (n.setMounted b).lits = n.lits := by cases n; rfl
@[simp] theorem Node.param_setMounted (n : Node) (b) : (n.setMounted b).param = n.param := by cases n; rfl
@[simp] theorem Node.wild_setMounted (n : Node) (b) : (n.setMounted b).wild = n.wild := by cases n; rfl
@[simp] theorem Node.hs_setLits (n : Node) (ls) : (n.setLits ls).hs = n.hs := by cases n; rfl
@[simp] theorem Node.params_setLits (n : Node) (ls) : (n.setLits ls).params = n.params := by cases n; rfl
@[simp] theorem Node.listeners_setLits (n : Node) (ls) : (n.setLits ls).listeners = n.listeners := by cases n; rfl
@[simp] theorem Node.mounted_setLits (n : Node) (ls) : (n.setLits ls).mounted = n.mounted := by cases n; rfl
@[simp] theorem Node.lits_setLits (n : Node) (ls) : (n.setLits ls).lits = ls := by cases n; rfl
@[simp] theorem Node.param_setLits (n : Node) (ls) : (n.setLits ls).param = n.param := by cases n; rfl
@[simp] theorem Node.wild_setLits (n : Node) (ls) : (n.setLits ls).wild = n.wild := by cases n; rfl
@[simp] theorem Node.hs_setParam (n : Node) (pa) : (n.setParam pa).hs = n.hs := by cases n; rfl
@[simp] theorem Node.params_setParam (n : Node) (pa) : (n.setParam pa).params = n.params := by cases n; rfl
@[simp] theorem Node.listeners_setParam (n : Node) (pa) : (n.setParam pa).listeners = n.listeners := by cases n; rfl
@[simp] theorem Node.mounted_setParam (n : Node) (pa) : (n.setParam pa).mounted = n.mounted := by cases n; rfl
@[simp] theorem Node.lits_setParam (n : Node) (pa) : (n.setParam pa).lits = n.lits := by cases n; rfl
@[simp] theorem Node.param_setParam (n : Node) (pa) : (n.setParam pa).param = pa := by cases n; rfl
@[simp] theorem Node.wild_setParam (n : Node) (pa) : (n.setParam pa).wild = n.wild := by cases n; rfl
@[simp] theorem Node.hs_setWild (n : Node) (w) : (n.setWild w).hs = n.hs := by cases n; rfl
@[simp] theorem Node.params_setWild (n : Node) (w) : (n.setWild w).params = n.params := by cases n; rfl
@[simp] theorem Node.listeners_setWild (n : Node) (w) : (n.setWild w).listeners = n.listeners := by cases n; rfl
@[simp] theorem Node.mounted_setWild (n : Node) (w) : (n.setWild w).mounted = n.mounted := by cases n; rfl
@[simp] theorem Node.lits_setWild (n : Node) (w) : (n.setWild w).lits = n.lits := by cases n; rfl
@[simp] theorem Node.param_setWild (n : Node) (w) : (n.setWild w).param = n.param := by cases n; rfl
@[simp] theorem Node.wild_setWild (n : Node) (w) : (n.setWild w).wild = w := by cases n; rfl
@[simp] theorem Node.hs_addListener (n : Node) (a) : (n.addListener a).hs = n.hs := by cases n; rfl
@[simp] theorem Node.params_addListener (n : Node) (a) : (n.addListener a).params = n.params := by cases n; rfl
@[simp] theorem Node.listeners_addListener (n : Node) (a) : (n.addListener a).listeners = n.listeners ++ [a] := by cases n; rfl
@[simp] theorem Node.mounted_addListener (n : Node) (a) : (n.addListener a).mounted = n.mounted := by cases n; rfl
@[simp] theorem Node.lits_addListener (n : Node) (a) : (n.addListener a).lits = n.lits := by cases n; rfl
@[simp] theorem Node.param_addListener (n : Node) (a) : (n.addListener a).param = n.param := by cases n; rfl
@[simp] theorem Node.wild_addListener (n : Node) (a) : (n.addListener a).wild = n.wild := by cases n; rfl

@[simp] theorem Node.hs_empty : Node.empty.hs = none := rfl
@[simp] theorem Node.params_empty : Node.empty.params = [] := rfl
@[simp] theorem Node.listeners_empty : Node.empty.listeners = [] := rfl
@[simp] theorem Node.mounted_empty : Node.empty.mounted = false := rfl
@[simp] theorem Node.lits_empty : Node.empty.lits = [] := rfl
@[simp] theorem Node.param_empty : Node.empty.param = none := rfl
@[simp] theorem Node.wild_empty : Node.empty.wild = none := rfl

/-! ## children by edge (`child`, `setChild`), nodes by path (`getAt`, `setAt`) -/

@[simp] theorem lookupLit_nil (s : Str) : lookupLit [] s = none := rfl

theorem lookupLit_setLit (l : List (Str × Node)) (s s' : Str) (n : Node) :
    lookupLit (setLit l s n) s' = if s' = s then some n else lookupLit l s' := by
  induction l with
  | nil => simp [setLit, lookupLit, eq_comm]
  | cons a l ih =>
    obtain ⟨k, m⟩ := a
    by_cases h : k = s
    · subst h
      by_cases h' : s' = k
      · simp [setLit, lookupLit, h']
      · simp [setLit, lookupLit, h', Ne.symm h']
    · by_cases h' : s' = s
      · subst h'; simp [setLit, lookupLit, h, ih]
      · simp [setLit, lookupLit, h, h', ih]

theorem setLit_lookupLit {l : List (Str × Node)} {s : Str} {c : Node} (h : lookupLit l s = some c) :
    setLit l s c = l := by
  fun_induction lookupLit l s with
  | case1 => cases h
  | case2 n r => cases h; simp [setLit]
  | case3 k n r hk ih => simp [setLit, hk, ih h]

def child (n : Node) : Elem → Option Node
  | .lit s => lookupLit n.lits s
  | .param => n.param
  | .wild => n.wild

def setChild (n : Node) (e : Elem) (c : Node) : Node :=
  match e with
  | .lit s => n.setLits (setLit n.lits s c)
  | .param => n.setParam (some c)
  | .wild => n.setWild (some c)

@[simp] theorem child_setChild_self (n : Node) (e : Elem) (c : Node) : child (setChild n e c) e = some c := by
  cases n
  cases e with
  | lit s => exact (lookupLit_setLit ..).trans (if_pos rfl)
  | param => rfl
  | wild => rfl

theorem child_setChild_ne (n : Node) {e e' : Elem} (c : Node) (hne : e' ≠ e) :
    child (setChild n e c) e' = child n e' := by
  cases n
  cases e <;> cases e' <;> try rfl
  · exact (lookupLit_setLit ..).trans (if_neg fun h => hne (congrArg Elem.lit h))
  · exact absurd rfl hne
  · exact absurd rfl hne

@[simp] theorem hs_setChild (n : Node) (e : Elem) (c : Node) : (setChild n e c).hs = n.hs := by
  cases n; cases e <;> rfl
@[simp] theorem params_setChild (n : Node) (e : Elem) (c : Node) : (setChild n e c).params = n.params := by
  cases n; cases e <;> rfl
@[simp] theorem listeners_setChild (n : Node) (e : Elem) (c : Node) : (setChild n e c).listeners = n.listeners := by
  cases n; cases e <;> rfl
@[simp] theorem mounted_setChild (n : Node) (e : Elem) (c : Node) : (setChild n e c).mounted = n.mounted := by
  cases n; cases e <;> rfl

@[simp] theorem child_setHs (n : Node) (h) (e : Elem) : child (n.setHs h) e = child n e := by
  cases n; cases e <;> rfl
@[simp] theorem child_setParams (n : Node) (p) (e : Elem) : child (n.setParams p) e = child n e := by
  cases n; cases e <;> rfl
@[simp] theorem child_addListener (n : Node) (a) (e : Elem) : child (n.addListener a) e = child n e := by
  cases n; cases e <;> rfl

@[simp] theorem child_empty (e : Elem) : child Node.empty e = none := by
  cases e <;> rfl

theorem getAt_cons (n : Node) (e : Elem) (r : List Elem) : getAt n (e :: r) = (child n e).bind (getAt · r) := by
  cases e <;> rfl

theorem getAt_cons_some {n : Node} {e : Elem} {r : List Elem} {x : Node} :
    getAt n (e :: r) = some x ↔ ∃ c, child n e = some c ∧ getAt c r = some x := by
  rw [getAt_cons, Option.bind_eq_some_iff]

@[simp] theorem getAt_nil (n : Node) : getAt n [] = some n := by
  cases n; rfl

theorem setAt_cons (n : Node) (e : Elem) (r : List Elem) (x : Node) :
    setAt n (e :: r) x = match child n e with
      | some c => setChild n e (setAt c r x)
      | none => n := by
  cases e <;> rfl

theorem setChild_child {n : Node} {e : Elem} {c : Node} (h : child n e = some c) : setChild n e c = n := by
  cases n
  cases e with
  | lit s => exact congrArg (Node.mk _ _ _ _ · _ _) (setLit_lookupLit h)
  | param => cases h; rfl
  | wild => cases h; rfl

theorem getD_getAt_empty (pat : List Elem) : (getAt Node.empty pat).getD Node.empty = Node.empty := by
  cases pat <;> simp [getAt_cons]

theorem getAt_empty {pat : List Elem} {x : Node} (h : getAt Node.empty pat = some x) : pat = [] ∧ x = Node.empty := by
  cases pat <;> simp [getAt_cons] at h
  exact ⟨rfl, h.symm⟩

theorem getD_getAt_cons (n : Node) (e : Elem) (r : List Elem) :
    (getAt n (e :: r)).getD Node.empty = (getAt ((child n e).getD Node.empty) r).getD Node.empty := by
  rw [getAt_cons]
  cases child n e <;> simp [getD_getAt_empty]

/-- no mount point anywhere in the tree: the tree of a single mux -/
def Unmounted (n : Node) : Prop := ∀ pat x, getAt n pat = some x → x.mounted = false

theorem unmounted_child {n : Node} (h : Unmounted n) (e : Elem) : Unmounted ((child n e).getD .empty) := by
  intro pat x hx
  cases hc : child n e with
  | none => rw [hc] at hx; rw [(getAt_empty hx).2]; rfl
  | some c => exact h (e :: pat) x (by simpa [getAt_cons, hc] using hx)

/-! ## altering the node under a path -/

/-- alter the node under `path` by `g`; where the path does not exist yet, new empty nodes are
created: what `fetch` does to the tree -/
def putAt : Node → List Elem → (Node → Node) → Node
  | n, [], g => g n
  | n, e :: r, g => setChild n e (putAt ((child n e).getD .empty) r g)

theorem getAt_putAt_self (g : Node → Node) (path : List Elem) : ∀ (n : Node),
    getAt (putAt n path g) path = some (g ((getAt n path).getD .empty)) := by
  induction path with
  | nil => intro n; simp [putAt]
  | cons e r ih => intro n; rw [putAt, getAt_cons, child_setChild_self, Option.bind_some, ih, getD_getAt_cons]

/-- By the position of `pat`: the end of the path (read by `getAt_putAt_self`), strictly above it, or
elsewhere: off the path, or below its end, where `hg` is what keeps the subtree. -/
theorem getAt_putAt {g : Node → Node} (hg : ∀ x e, child (g x) e = child x e) (path : List Elem) :
    ∀ (n : Node) (pat : List Elem),
      pat = path ∨
      (∃ e r c, path = pat ++ e :: r ∧
        getAt (putAt n path g) pat = some (setChild ((getAt n pat).getD .empty) e c)) ∨
      (¬ pat <+: path ∧ getAt (putAt n path g) pat = getAt n pat) := by
  induction path with
  | nil =>
    intro n pat
    cases pat with
    | nil => exact .inl rfl
    | cons e q => exact .inr (.inr ⟨by simp, by rw [putAt, getAt_cons, hg, ← getAt_cons]⟩)
  | cons e r ih =>
    intro n pat
    cases pat with
    | nil => exact .inr (.inl ⟨e, r, _, rfl, by rw [putAt, getAt_nil, getAt_nil]; rfl⟩)
    | cons e' q =>
      by_cases hee : e' = e
      · subst hee
        rw [putAt, getAt_cons, child_setChild_self, Option.bind_some, getD_getAt_cons]
        rcases ih ((child n e').getD .empty) q with rfl | ⟨e2, r2, c, rfl, h⟩ | ⟨hp, h⟩
        · exact .inl rfl
        · exact .inr (.inl ⟨e2, r2, c, rfl, h⟩)
        · refine .inr (.inr ⟨by simpa [List.cons_prefix_cons] using hp, ?_⟩)
          rw [h, getAt_cons]
          cases child n e' with
          | some c => rfl
          | none => cases q with
            | nil => simp at hp
            | cons _ _ => simp [getAt_cons]
      · exact .inr (.inr ⟨by simp [List.cons_prefix_cons, hee],
          by rw [putAt, getAt_cons, child_setChild_ne _ _ hee, ← getAt_cons]⟩)

/-- `hne` in this form serves a registration under another pattern as well as a failed one (`g = id`) -/
theorem putAt_frame {g : Node → Node} (hg : ∀ x e, child (g x) e = child x e) (path : List Elem)
    {n : Node} {pat : List Elem} {x : Node} (h : getAt n pat = some x) (hne : pat = path → g x = x) :
    ∃ x', getAt (putAt n path g) pat = some x' ∧ x'.hs = x.hs ∧ x'.listeners = x.listeners := by
  rcases getAt_putAt hg path n pat with rfl | ⟨e, r, c, rfl, h1⟩ | ⟨_, h1⟩
  · exact ⟨x, by rw [getAt_putAt_self, h, Option.getD_some, hne rfl], rfl, rfl⟩
  · exact ⟨_, h1, by simp [h]⟩
  · exact ⟨x, h1 ▸ h, rfl, rfl⟩

/-! ## `fetch` without mount, one token at a time -/

/-- the per-token checks of `fetch`: the panic, if any (`names`: the `$`-names met so far) -/
def tokErr (t : Str) (rest : List Str) (names : List Str) : Option FetchErr :=
  match t with
  | [] => some .invalid
  | c :: name =>
    if c = dollar ∨ c = star then
      if (name.isEmpty) != (c = star) then some .invalid
      else if c = dollar ∧ name ∈ names then some .dupParam
      else none
    else if c = gt then
      if !name.isEmpty ∨ !rest.isEmpty then some .invalid else none
    else none

def tokNames : Str → List Str
  | [] => []
  | c :: name => if c = dollar then [name] else []

def tokParams (t : Str) (idx : Nat) : List PathParam :=
  match t with
  | [] => []
  | c :: name => if c = dollar then [⟨name, idx⟩] else []

theorem names_tokParams (t : Str) (idx : Nat) : (tokParams t idx).map (·.name) = tokNames t := by
  cases t with
  | nil => rfl
  | cons c name => simp only [tokParams, tokNames]; split <;> rfl

/-! a literal token passes the checks and binds no parameter -/

theorem elemOf_of_litOk {t : Str} (h : Pattern.litOk t = true) : elemOf t = .lit t := by
  obtain ⟨c, a, rfl, ⟨-, h36, h42, h62⟩, -⟩ := Pattern.litOk_cases h
  simp [elemOf, h36, h42, h62]

theorem tokErr_of_litOk {t : Str} (h : Pattern.litOk t = true) (rest names : List Str) :
    tokErr t rest names = none := by
  obtain ⟨c, a, rfl, ⟨-, h36, h42, h62⟩, -⟩ := Pattern.litOk_cases h
  simp [tokErr, h36, h42, h62]

theorem tokParams_of_litOk {t : Str} (h : Pattern.litOk t = true) (idx : Nat) : tokParams t idx = [] := by
  obtain ⟨c, a, rfl, ⟨-, h36, -⟩, -⟩ := Pattern.litOk_cases h
  simp [tokParams, h36]

/-- the continuation `fetch` runs on the node it reaches, with `fresh`, the parameters and the mount index -/
abbrev FetchK (α : Type) := Node → Bool → List PathParam → Nat → Node × Except FetchErr α

theorem fetch_none_nil {α : Type} (k : FetchK α)
    (n : Node) (i mi : Nat) (ps : List PathParam) (fr : Bool) :
    fetch none k n [] i mi ps fr = k n fr ps mi := rfl

theorem fetch_none_cons {α : Type} (k : FetchK α)
    (n : Node) (t : Str) (rest : List Str) (i mi : Nat) (ps : List PathParam) (fr : Bool) :
    fetch none k n (t :: rest) i mi ps fr =
      match tokErr t rest (ps.map (·.name)) with
      | some e => (n, .error e)
      | none =>
        let r := fetch none k ((child n (elemOf t)).getD .empty) rest (i + 1) (if n.mounted then i else mi)
          (ps ++ tokParams t (i - if n.mounted then i else mi)) (child n (elemOf t)).isNone
        (setChild n (elemOf t) r.1, r.2) := by
  cases t with
  | nil => rfl
  | cons c name =>
    have hany : (c = dollar ∧ ps.any (fun q => decide (q.name = name)) = true) ↔ c = dollar ∧ name ∈ ps.map (·.name) := by
      simp only [List.any_eq_true, decide_eq_true_eq, List.mem_map]
    rw [fetch, tokErr, elemOf, tokParams]
    -- `rw` with `if_pos`/`if_neg` on both sides at once: `split` and `simp only` go through the whole
    -- body of `fetch` at every step and are several times dearer here
    by_cases h1 : c = dollar ∨ c = star
    · rw [if_pos h1, if_pos h1, if_pos h1]
      by_cases h2 : (name.isEmpty != decide (c = star)) = true
      · rw [if_pos h2, if_pos h2]
      · rw [if_neg h2, if_neg h2]
        by_cases h3 : c = dollar ∧ name ∈ ps.map (·.name)
        · rw [if_pos h3, if_pos (hany.2 h3)]
        · rw [if_neg h3, if_neg (mt hany.1 h3)]
          simp only [child, setChild]
          cases n.param <;> by_cases hd : c = dollar <;> simp [hd]
    · have hd : ¬ c = dollar := fun h => h1 (.inl h)
      rw [if_neg h1, if_neg h1, if_neg h1, if_neg hd, List.append_nil]
      by_cases h2 : c = gt
      · rw [if_pos h2, if_pos h2, if_pos h2]
        by_cases h3 : (!name.isEmpty) = true ∨ (!rest.isEmpty) = true
        · rw [if_pos h3, if_pos h3]
        · rw [if_neg h3, if_neg h3]
          simp only [child, setChild]
          cases n.wild <;> rfl
      · rw [if_neg h2, if_neg h2, if_neg h2]
        simp only [child, setChild]
        cases lookupLit n.lits (c :: name) <;> rfl

theorem tokErr_none {t : Str} {rest : List Str} {names : List Str} (h : tokErr t rest names = none) :
    (elemOf t = .wild → rest = []) ∧ ∀ x ∈ tokNames t, x ∉ names := by
  cases t with
  | nil => cases h
  | cons c name =>
    by_cases hd : c = dollar
    · -- `$name`: not met before
      subst hd
      have hn : name ∉ names := fun hn => by simp [tokErr, hn] at h; split at h <;> cases h
      simpa [elemOf, tokNames] using hn
    · by_cases hg : c = gt
      · -- `>…`: the last token
        subst hg
        have hr : rest = [] := by simp [tokErr, gt, dollar, star] at h; exact h.2
        simp [elemOf, tokNames, hr, gt, dollar]
      · simp only [elemOf, tokNames, if_neg hd, if_neg hg]
        exact ⟨by split <;> nofun, nofun⟩

/-! ## matching and specificity of a path of edges

The recursions C06 states its theorems with (`ElemsMatch`, `elemCls`, `MoreSpecific`; shown equal there). -/

def EMatch : List Elem → List Str → Prop
  | [], [] => True
  | [.wild], _ :: _ => True
  | .lit s :: ps, t :: ts => s = t ∧ EMatch ps ts
  | .param :: ps, _ :: ts => EMatch ps ts
  | _, _ => False

/-- the rank of an edge in the order in which `matchNode` tries the children: the literal child
first, `>` last -/
def eCls : Elem → Nat
  | .lit _ => 2
  | .param => 1
  | .wild => 0

def MoreSpec : List Elem → List Elem → Prop
  | a :: as, b :: bs => eCls a > eCls b ∨ (eCls a = eCls b ∧ MoreSpec as bs)
  | _, _ => False

def WildLast : List Elem → Prop
  | [] => True
  | e :: r => (e = .wild → r = []) ∧ WildLast r

theorem EMatch_nil_right (ps : List Elem) : EMatch ps [] ↔ ps = [] := by
  cases ps with
  | nil => simp [EMatch]
  | cons e r => cases e <;> simp [EMatch]

theorem EMatch_nil_left (ts : List Str) : EMatch [] ts ↔ ts = [] := by
  cases ts <;> simp [EMatch]

theorem EMatch_cons (e : Elem) (ps : List Elem) (t : Str) (ts : List Str) :
    EMatch (e :: ps) (t :: ts) ↔ (e = .wild ∧ ps = []) ∨ ((e = .lit t ∨ e = .param) ∧ EMatch ps ts) := by
  cases e with
  | lit s => simp [EMatch]
  | param => simp [EMatch]
  | wild => cases ps <;> simp [EMatch]

theorem EMatch_length {ps : List Elem} {ts : List Str} (h : EMatch ps ts) : ps.length ≤ ts.length := by
  induction ts generalizing ps with
  | nil => rw [EMatch_nil_right] at h; simp [h]
  | cons t ts ih =>
    cases ps with
    | nil => simp
    | cons e ps =>
      rw [EMatch_cons] at h
      rcases h with ⟨_, rfl⟩ | ⟨_, h⟩
      · simp
      · exact Nat.succ_le_succ (ih h)

theorem EMatch_wildLast {ps : List Elem} {ts : List Str} (h : EMatch ps ts) : WildLast ps := by
  induction ts generalizing ps with
  | nil => rw [EMatch_nil_right] at h; simp [h, WildLast]
  | cons t ts ih =>
    cases ps with
    | nil => simp [WildLast]
    | cons e ps =>
      rw [EMatch_cons] at h
      rcases h with ⟨rfl, rfl⟩ | ⟨he, h⟩
      · simp [WildLast]
      · exact ⟨fun hw => (by rcases he with rfl | rfl <;> cases hw), ih h⟩

theorem MoreSpec_nil_right (a : List Elem) : ¬ MoreSpec a [] := by
  cases a <;> simp [MoreSpec]

/-! ## lookup: what `matchNode` returns (`Finds`) -/

/-- one alternative of `matchNode`: descend into child `c` (if any) -/
def tryChild (c : Option Node) (rest : List Str) (i mi : Nat) : Option Found :=
  match c with
  | none => none
  | some n => if rest.isEmpty then (if n.hs.isSome then some ⟨n, mi⟩ else none) else matchNode n rest i mi

theorem tryChild_nil (n : Node) (i mi : Nat) :
    tryChild (some n) [] i mi = if n.hs.isSome then some ⟨n, mi⟩ else none := rfl

theorem tryChild_cons (n : Node) (t : Str) (rest : List Str) (i mi : Nat) :
    tryChild (some n) (t :: rest) i mi = matchNode n (t :: rest) i mi := rfl

theorem matchNode_cons (l : Node) (t : Str) (rest : List Str) (i mi : Nat) :
    matchNode l (t :: rest) i mi =
      (tryChild (child l (.lit t)) rest (i + 1) (if l.mounted then i else mi)).or
        ((tryChild (child l .param) rest (i + 1) (if l.mounted then i else mi)).or
          ((child l .wild).map (⟨·, if l.mounted then i else mi⟩))) := by
  -- the definition spells the two `or`s as matches
  show (match tryChild (child l (.lit t)) rest (i + 1) _ with
    | some f => some f
    | none => match tryChild (child l .param) rest (i + 1) _ with
      | some f => some f
      | none => _) = _
  cases tryChild (child l (.lit t)) rest (i + 1) _ with
  | some f => rfl
  | none => cases tryChild (child l .param) rest (i + 1) _ <;> rfl

theorem matchNode_nil (l : Node) (i mi : Nat) : matchNode l [] i mi = none := rfl

/-- The specification of lookup below `c`, an optional node so that `child l e` fits as it is.
`matchNode` returns the `>` child without a look at its handler: the disjunct `pat.getLast? = some .wild`. -/
def Finds (c : Option Node) (toks : List Str) : Option Found → Prop
  | none => ∀ pat x, c.bind (getAt · pat) = some x → x.hs.isSome → ¬ EMatch pat toks
  | some f => ∃ pat, c.bind (getAt · pat) = some f.node ∧ EMatch pat toks ∧
      (f.node.hs.isSome ∨ pat.getLast? = some .wild) ∧
      ∀ pat' x', c.bind (getAt · pat') = some x' → x'.hs.isSome → EMatch pat' toks → ¬ MoreSpec pat' pat

theorem getAt_EMatch_cons {l : Node} {pat : List Elem} {x : Node} {t : Str} {rest : List Str}
    (hx : getAt l pat = some x) (hm : EMatch pat (t :: rest)) :
    (pat = [.wild] ∧ child l .wild = some x) ∨
    ∃ e ps, pat = e :: ps ∧ (e = .lit t ∨ e = .param) ∧ (child l e).bind (getAt · ps) = some x ∧ EMatch ps rest := by
  cases pat with
  | nil => cases hm
  | cons e ps =>
    rw [getAt_cons] at hx
    rw [EMatch_cons] at hm
    rcases hm with ⟨rfl, rfl⟩ | ⟨he, hm⟩
    · exact .inl ⟨rfl, by simpa using hx⟩
    · exact .inr ⟨e, ps, rfl, he, hx, hm⟩

theorem Finds.lift {l : Node} {t : Str} {rest : List Str} {e : Elem} {f : Found} (he : e = .lit t ∨ e = .param)
    (h : Finds (child l e) rest (some f))
    (hhi : ∀ e', e' = .lit t ∨ e' = .param → eCls e < eCls e' → Finds (child l e') rest none) :
    Finds (some l) (t :: rest) (some f) := by
  obtain ⟨ps, hg, hm, hh, hbest⟩ := h
  refine ⟨e :: ps, by simpa [getAt_cons] using hg, ?_, hh.imp_right fun h => by rw [List.getLast?_cons, h]; rfl, ?_⟩
  · exact (EMatch_cons ..).2 (.inr ⟨he, hm⟩)
  · intro pat' x' hx' hh' hm'
    rcases getAt_EMatch_cons hx' hm' with ⟨rfl, _⟩ | ⟨e', ps', rfl, he', hx, hm⟩
    · rcases he with rfl | rfl <;> simp [MoreSpec, eCls]
    · rintro (hgt | ⟨heq, hms⟩)
      · exact hhi e' he' hgt ps' x' hx hh' hm
      · -- the same class: the same edge
        have : e' = e := by
          rcases he with rfl | rfl <;> rcases he' with rfl | rfl
          · rfl
          · cases heq
          · cases heq
          · rfl
        subst this
        exact hbest ps' x' hx hh' hm hms

/-- the children are tried by decreasing `eCls`, so the first success is the lexicographic maximum -/
theorem Finds.cons {l : Node} {t : Str} {rest : List Str} {r1 r2 : Option Found} (mi : Nat)
    (h1 : Finds (child l (.lit t)) rest r1) (h2 : Finds (child l .param) rest r2) :
    Finds (some l) (t :: rest) (r1.or (r2.or ((child l .wild).map (⟨·, mi⟩)))) := by
  cases r1 with
  | some f => exact .lift (.inl rfl) h1 (by rintro e' (rfl | rfl) h <;> simp [eCls] at h)
  | none =>
    cases r2 with
    | some f =>
      refine .lift (.inr rfl) h2 ?_
      rintro e' (rfl | rfl) h
      · exact h1
      · simp [eCls] at h
    | none =>
      -- nothing matches below the two children: the only pattern left is `[>]`
      have only : ∀ pat x, getAt l pat = some x → x.hs.isSome → EMatch pat (t :: rest) →
          pat = [.wild] ∧ child l .wild = some x := by
        intro pat x hx hh hm
        rcases getAt_EMatch_cons hx hm with h | ⟨e, ps, rfl, rfl | rfl, hx, hm⟩
        · exact h
        · exact absurd hm (h1 ps x hx hh)
        · exact absurd hm (h2 ps x hx hh)
      cases hw : child l .wild with
      | none => exact fun pat x hx hh hm => nomatch hw ▸ (only pat x hx hh hm).2
      | some w =>
        refine ⟨[.wild], by simp [getAt_cons, hw], trivial, .inr rfl, fun pat x hx hh hm => ?_⟩
        rw [(only pat x hx hh hm).1]
        simp [MoreSpec]

theorem tryChild_finds (rest : List Str) : ∀ (c : Option Node) (i mi : Nat), Finds c rest (tryChild c rest i mi) := by
  induction rest with
  | nil =>
    intro c i mi
    cases c with
    | none => exact fun _ _ h => nomatch h
    | some n =>
      rw [tryChild_nil]
      split
      · rename_i hh
        exact ⟨[], rfl, trivial, .inl hh, fun _ _ _ _ _ => MoreSpec_nil_right _⟩
      · rename_i hh
        intro pat x hx hhx hm
        rw [EMatch_nil_right] at hm
        subst hm
        cases hx
        exact hh hhx
  | cons t rest ih =>
    intro c i mi
    cases c with
    | none => exact fun _ _ h => nomatch h
    | some l =>
      rw [tryChild_cons, matchNode_cons]
      exact .cons _ (ih _ _ _) (ih _ _ _)

theorem matchNode_finds {toks : List Str} (hne : toks ≠ []) (l : Node) (i mi : Nat) :
    Finds (some l) toks (matchNode l toks i mi) := by
  cases toks with
  | nil => exact absurd rfl hne
  | cons t rest => exact tryChild_finds (t :: rest) (some l) i mi

theorem matchNode_spec {l : Node} {toks : List Str} {i mi : Nat} {f : Found} (h : matchNode l toks i mi = some f) :
    ∃ pat, getAt l pat = some f.node ∧ EMatch pat toks ∧ (f.node.hs.isSome ∨ pat.getLast? = some .wild) ∧
      ∀ pat' x', getAt l pat' = some x' → x'.hs.isSome → EMatch pat' toks → ¬ MoreSpec pat' pat := by
  have := matchNode_finds (toks := toks) (by rintro rfl; cases h) l i mi
  rwa [h] at this

theorem matchNode_complete {l : Node} {toks : List Str} {pat : List Elem} {x : Node} (hne : toks ≠ [])
    (hg : getAt l pat = some x) (hh : x.hs.isSome) (hm : EMatch pat toks) (i mi : Nat) :
    ∃ f, matchNode l toks i mi = some f := by
  have := matchNode_finds hne l i mi
  cases h : matchNode l toks i mi with
  | some f => exact ⟨f, rfl⟩
  | none => rw [h] at this; exact absurd hm (this pat x hg hh)

theorem matchNode_mountIdx {toks : List Str} {l : Node} {i mi : Nat} {f : Found}
    (hl : Unmounted l) (h : matchNode l toks i mi = some f) : f.mountIdx = mi := by
  induction toks generalizing l i with
  | nil => cases h
  | cons t rest ih =>
    have step : ∀ e, tryChild (child l e) rest (i + 1) mi = some f → f.mountIdx = mi := by
      intro e h1
      cases hc : child l e with
      | none => rw [hc] at h1; cases h1
      | some n =>
        simp only [hc, tryChild] at h1
        split at h1
        · split at h1 <;> cases h1
          rfl
        · exact ih (by simpa [hc] using unmounted_child hl e) h1
    simp only [matchNode_cons, hl [] l (getAt_nil l), Bool.false_eq_true, if_false, Option.or_eq_some_iff,
      Option.map_eq_some_iff] at h
    rcases h with h | ⟨_, h | ⟨_, w, _, rfl⟩⟩
    · exact step _ h
    · exact step _ h
    · rfl

/-! ## `fetch` checks the tokens, then alters the node under the path -/

def toksErr : List Str → List Str → Option FetchErr
  | [], _ => none
  | t :: rest, names => (tokErr t rest names).or (toksErr rest (names ++ tokNames t))

theorem toksErr_wildLast {toks : List Str} {names : List Str} (h : toksErr toks names = none) :
    WildLast (toks.map elemOf) := by
  induction toks generalizing names with
  | nil => trivial
  | cons t rest ih =>
    simp only [toksErr, Option.or_eq_none_iff] at h
    exact ⟨fun hw => by simp [(tokErr_none h.1).1 hw], ih h.2⟩

/-- the `pathParam`s of a token list whose first token has index `i` -/
def paramsOf : List Str → Nat → List PathParam
  | [], _ => []
  | t :: r, i => tokParams t i ++ paramsOf r (i + 1)

/-- A panic leaves the empty nodes created up to there (`putAt n pre id`).  What the continuation is
handed (`fr' ps' mi'`) is determined only in the tree of a single mux: the last conjunct. -/
theorem fetch_eq_putAt {α : Type} (k : FetchK α)
    (toks : List Str) : ∀ (n : Node) (i mi : Nat) (ps : List PathParam) (fr : Bool),
    match toksErr toks (ps.map (·.name)) with
    | some e => ∃ pre, fetch none k n toks i mi ps fr = (putAt n pre id, .error e)
    | none => ∃ fr' ps' mi',
        fetch none k n toks i mi ps fr =
          (putAt n (toks.map elemOf) (fun x => (k x fr' ps' mi').1),
           (k ((getAt n (toks.map elemOf)).getD .empty) fr' ps' mi').2) ∧
        (Unmounted n → mi = 0 → ps' = ps ++ paramsOf toks i ∧ mi' = 0) := by
  induction toks with
  | nil => intro n i mi ps fr; exact ⟨fr, ps, mi, rfl, fun _ h => ⟨by simp [paramsOf], h⟩⟩
  | cons t rest ih =>
    intro n i mi ps fr
    rw [fetch_none_cons, toksErr, List.map_cons, getD_getAt_cons]
    cases tokErr t rest (ps.map (·.name)) with
    | some e => exact ⟨[], rfl⟩
    | none =>
      have := ih ((child n (elemOf t)).getD .empty) (i + 1) (if n.mounted then i else mi)
        (ps ++ tokParams t (i - if n.mounted then i else mi)) (child n (elemOf t)).isNone
      rw [List.map_append, names_tokParams] at this
      simp only [Option.none_or]
      split at this
      · obtain ⟨pre, h⟩ := this
        exact ⟨elemOf t :: pre, by rw [h]; rfl⟩
      · obtain ⟨fr', ps', mi', h, hx⟩ := this
        refine ⟨fr', ps', mi', by rw [h]; rfl, fun hn hmi => ?_⟩
        subst hmi
        have hm : n.mounted = false := hn [] n (getAt_nil n)
        simp only [hm, Bool.false_eq_true, if_false, Nat.sub_zero] at hx
        simpa [paramsOf] using hx (unmounted_child hn _) trivial

/-! ## registration: `fetch` with a continuation -/

/-- the continuation `Mux.add` runs on the node reached -/
def addK (id : Nat) (g : Group) : FetchK (Except RegErr Unit) :=
  fun n _ params mountIdx =>
    if n.hs.isSome then (n, .ok (.error .already))
    else match setAndValidateParams n params with
      | .error e => (n, .ok (.error e))
      | .ok n' => (n'.setHs (some ⟨id, rebase g mountIdx⟩), .ok (.ok ()))

/-- the continuation `Mux.AddListener` runs on the node reached -/
def listenK (id : Nat) : FetchK (Except RegErr Unit) :=
  fun n _ params _ =>
    match setAndValidateParams n params with
    | .error e => (n, .ok (.error e))
    | .ok n' => (n'.addListener id, .ok (.ok ()))

def regResult : Except FetchErr (Except RegErr Unit) → Except RegErr Unit
  | .error e => .error (.fetch e)
  | .ok (.error e) => .error e
  | .ok (.ok ()) => .ok ()

/-- what `Mux.add` and `Mux.AddListener` have in common -/
def regAt (k : FetchK (Except RegErr Unit))
    (root : Node) (pattern : Str) : Node × Except RegErr Unit :=
  if !Pattern.isValid pattern then (root, .error .invalidPattern)
  else ((fetch none k root (splitPattern pattern) 0 0 [] false).1,
        regResult (fetch none k root (splitPattern pattern) 0 0 [] false).2)

theorem addAt_eq (root : Node) (pattern : Str) (id : Nat) (g : Group) :
    addAt root pattern id g = regAt (addK id g) root pattern := by
  unfold addAt regAt addK
  split
  · rfl
  · generalize fetch none _ root _ 0 0 [] false = p
    rcases p with ⟨root', e | (e | ⟨⟨⟩⟩)⟩ <;> rfl

theorem addListenerAt_eq (root : Node) (pattern : Str) (id : Nat) :
    addListenerAt root pattern id = regAt (listenK id) root pattern := by
  unfold addListenerAt regAt listenK
  split
  · rfl
  · generalize fetch none _ root _ 0 0 [] false = p
    rcases p with ⟨root', e | (e | ⟨⟨⟩⟩)⟩ <;> rfl

/-- the first alternative is the invalid pattern and the panics of `fetch`; a refusal by the
continuation itself comes under the second (`regResult`) -/
theorem regAt_cases (k : FetchK (Except RegErr Unit))
    (root : Node) (pattern : Str) :
    (∃ pre e, regAt k root pattern = (putAt root pre id, .error e)) ∨
    ∃ fr ps mi,
      regAt k root pattern =
        (putAt root ((splitPattern pattern).map elemOf) (fun x => (k x fr ps mi).1),
         regResult (k ((getAt root ((splitPattern pattern).map elemOf)).getD .empty) fr ps mi).2) ∧
      toksErr (splitPattern pattern) [] = none ∧
      (Unmounted root → ps = paramsOf (splitPattern pattern) 0 ∧ mi = 0) := by
  unfold regAt
  split
  · exact .inl ⟨[], _, rfl⟩
  · have hs := fetch_eq_putAt k (splitPattern pattern) root 0 0 [] false
    split at hs
    · obtain ⟨pre, hs⟩ := hs
      exact .inl ⟨pre, _, by rw [hs]; rfl⟩
    · rename_i he
      obtain ⟨fr, ps, mi, hs, hx⟩ := hs
      exact .inr ⟨fr, ps, mi, by rw [hs], he, fun hn => by simpa using hx hn rfl⟩

theorem setAndValidateParams_ok {n : Node} {ps : List PathParam} {n' : Node}
    (h : setAndValidateParams n ps = .ok n') : ∃ q, n' = n.setParams q ∧ (q = ps ∨ q = n.params) := by
  unfold setAndValidateParams at h
  split at h
  · cases h; exact ⟨ps, rfl, .inl rfl⟩
  · split at h
    · cases h
    · split at h
      · cases h; exact ⟨n.params, by cases n; rfl, .inr rfl⟩
      · cases h

theorem rebase_zero (g : Group) : rebase g 0 = g := by
  cases g with
  | none => rfl
  | some l => exact congrArg some ((List.map_congr_left fun gp _ => by cases gp <;> rfl).trans (List.map_id l))

theorem addK_cases (id : Nat) (g : Group) (x0 : Node) (fr : Bool) (ps : List PathParam) (mi : Nat) :
    (∃ e, addK id g x0 fr ps mi = (x0, .ok (.error e))) ∨
    x0.hs = none ∧ ∃ q, (q = ps ∨ q = x0.params) ∧
      addK id g x0 fr ps mi = ((x0.setParams q).setHs (some ⟨id, rebase g mi⟩), .ok (.ok ())) := by
  unfold addK
  split
  · exact .inl ⟨_, rfl⟩
  · rename_i hh
    split
    · exact .inl ⟨_, rfl⟩
    · rename_i n' h
      obtain ⟨q, rfl, hq⟩ := setAndValidateParams_ok h
      exact .inr ⟨by simpa using hh, q, hq, rfl⟩

theorem listenK_cases (id : Nat) (x0 : Node) (fr : Bool) (ps : List PathParam) (mi : Nat) :
    (∃ e, listenK id x0 fr ps mi = (x0, .ok (.error e))) ∨
    ∃ q, (q = ps ∨ q = x0.params) ∧ listenK id x0 fr ps mi = ((x0.setParams q).addListener id, .ok (.ok ())) := by
  unfold listenK
  split
  · exact .inl ⟨_, rfl⟩
  · rename_i n' h
    obtain ⟨q, rfl, hq⟩ := setAndValidateParams_ok h
    exact .inr ⟨q, hq, rfl⟩

theorem child_addK (id : Nat) (g : Group) (x0 : Node) (fr : Bool) (ps : List PathParam) (mi : Nat) (e : Elem) :
    child (addK id g x0 fr ps mi).1 e = child x0 e := by
  rcases addK_cases id g x0 fr ps mi with ⟨_, h⟩ | ⟨_, q, _, h⟩
  · rw [h]
  · rw [h, child_setHs, child_setParams]

theorem child_listenK (id : Nat) (x0 : Node) (fr : Bool) (ps : List PathParam) (mi : Nat) (e : Elem) :
    child (listenK id x0 fr ps mi).1 e = child x0 e := by
  rcases listenK_cases id x0 fr ps mi with ⟨_, h⟩ | ⟨q, _, h⟩
  · rw [h]
  · rw [h, child_addListener, child_setParams]

theorem regResult_ok {r : Except FetchErr (Except RegErr Unit)} (h : regResult r = .ok ()) : r = .ok (.ok ()) := by
  rcases r with e | (e | ⟨⟨⟩⟩) <;> simp [regResult] at h ⊢

theorem addAt_ok {root : Node} {pattern : Str} {id : Nat} {g : Group} (h : (addAt root pattern id g).2 = .ok ()) :
    ∃ fr ps mi,
      (addK id g ((getAt root ((splitPattern pattern).map elemOf)).getD .empty) fr ps mi).2 = .ok (.ok ()) ∧
      (addAt root pattern id g).1 =
        putAt root ((splitPattern pattern).map elemOf) (fun x => (addK id g x fr ps mi).1) ∧
      toksErr (splitPattern pattern) [] = none ∧
      (Unmounted root → ps = paramsOf (splitPattern pattern) 0 ∧ mi = 0) := by
  rw [addAt_eq] at h ⊢
  rcases regAt_cases (addK id g) root pattern with ⟨pre, e, hr⟩ | ⟨fr, ps, mi, hr, he, hx⟩
  · rw [hr] at h; cases h
  · rw [hr] at h ⊢
    exact ⟨fr, ps, mi, regResult_ok h, rfl, he, hx⟩

/-! ## `parseGroup`: a tag index is the position of a `$` token of the pattern -/

theorem findTok_some {tokens : List Str} {tag : Str} {j r : Nat} (h : findTok tokens tag j = some r) :
    ∃ m, r = j + m ∧ tokens[m]? = some tag := by
  fun_induction findTok tokens tag j with
  | case1 => cases h
  | case2 j ts => cases h; exact ⟨0, rfl, rfl⟩
  | case3 j t ts _ ih =>
    obtain ⟨m, hr, hm⟩ := ih h
    exact ⟨m + 1, by rw [hr, Nat.add_assoc, Nat.add_comm 1], hm⟩

theorem parseGroupDefault_idx {tokens : List Str} {g cur : Str} {acc parts : List GPart}
    (h : parseGroupDefault tokens g cur acc = .ok parts) {i : Nat} (hi : GPart.idx i ∈ parts) :
    GPart.idx i ∈ acc ∨ ∃ tag, findTok tokens (dollar :: tag) 0 = some i := by
  -- as the definition terminates: after a tag the scan goes on at what `tagLoop` left, not at the tail
  induction hn : g.length using Nat.strongRecOn generalizing g cur acc with
  | _ n ih =>
    have flush : GPart.idx i ∈ (if cur.isEmpty then acc else acc ++ [.str cur.reverse]) → GPart.idx i ∈ acc := by
      split <;> simp
    cases g with
    | nil =>
      rw [parseGroupDefault] at h
      cases h
      exact .inl (flush hi)
    | cons c r =>
      rw [parseGroupDefault] at h
      by_cases hc : c = dollar
      · rw [if_pos hc] at h
        cases r with
        | nil => cases h
        | cons c2 r2 =>
          by_cases h2 : c2 ≠ lbrace
          · simp only [if_pos h2] at h; cases h
          · simp only [if_neg h2] at h
            split at h
            · cases h
            · rename_i tag rest ht
              have hlen := tagLoop_len ht
              cases hj : findTok tokens (dollar :: tag) 0 with
              | none => simp only [hj] at h; cases h
              | some j =>
                simp only [hj] at h
                rcases ih rest.length (hn ▸ Nat.lt_succ_of_lt (Nat.lt_succ_of_lt hlen)) h rfl with hi | hi
                · rcases List.mem_append.1 hi with hi | hi
                  · exact .inl (flush hi)
                  · cases List.mem_singleton.1 hi
                    exact .inr ⟨tag, hj⟩
                · exact .inr hi
      · rw [if_neg hc] at h
        exact ih r.length (hn ▸ Nat.lt_succ_self _) h rfl

theorem parseGroup_idx {group pattern : Str} {parts : List GPart} {i : Nat}
    (h : parseGroup group pattern = .ok (some parts)) (hi : GPart.idx i ∈ parts) :
    ∃ name, (splitPattern pattern)[i]? = some (dollar :: name) := by
  unfold parseGroup at h
  split at h
  · simp at h
  · split at h
    · rename_i gr hg
      simp at h; subst h
      rcases parseGroupDefault_idx hg hi with hi | ⟨tag, hj⟩
      · cases hi
      · obtain ⟨m, rfl, hm⟩ := findTok_some hj
        exact ⟨tag, by simpa using hm⟩
    · simp at h

/-! ## registering a well-formed pattern -/

theorem tokNames_eq (t : Str) : tokNames t = tagsOf [parseTok t] := by
  cases t with
  | nil => rfl
  | cons c name =>
    simp only [tokNames, parseTok]
    split
    · rfl
    · split
      · rfl
      · split <;> rfl

theorem tagsOf_parseTok_cons (t : Str) (r : List Tok) : tagsOf (parseTok t :: r) = tokNames t ++ tagsOf r := by
  rw [tokNames_eq]
  exact Pattern.tagsOf_append [_] r

theorem distinctTags_parseTok_cons_iff (t : Str) (r : List Tok) :
    distinctTags (parseTok t :: r) = true ↔ (∀ x ∈ tokNames t, x ∉ tagsOf r) ∧ distinctTags r = true := by
  rw [tokNames_eq]
  cases parseTok t <;> simp [distinctTags, tagsOf]

theorem tokErr_wf {t : Str} {rest : List Str} {names : List Str}
    (hok : (parseTok t).ok = true) (hfull : parseTok t = .full → rest = [])
    (hdup : ∀ x ∈ tokNames t, x ∉ names) : tokErr t rest names = none := by
  have hr := Pattern.render_parseTok t
  cases hp : parseTok t with
  | lit s =>
    rw [hp] at hok hr
    subst hr
    exact tokErr_of_litOk hok rest names
  | tag n =>
    rw [hp] at hok hr
    subst hr
    cases n with
    | nil => exact absurd hok (by decide)
    | cons x n => simp [tokErr, Ch.star, hdup (x :: n) (by simp [tokNames])]
  | star => rw [hp] at hr; subst hr; rfl
  | full => rw [hp] at hr; subst hr; rw [hfull hp]; rfl

theorem toksErr_wf (toks : List Str) : ∀ (names : List Str),
    wfPat (toks.map parseTok) = true → distinctTags (toks.map parseTok) = true →
    (∀ x ∈ names, x ∉ tagsOf (toks.map parseTok)) → toksErr toks names = none := by
  induction toks with
  | nil => intro _ _ _ _; rfl
  | cons t rest ih =>
    intro names hwf hdt hn
    rw [List.map_cons] at hwf hdt hn
    rw [tagsOf_parseTok_cons] at hn
    rw [distinctTags_parseTok_cons_iff] at hdt
    rw [Pattern.wfPat_cons] at hwf
    simp only [Bool.and_eq_true, Bool.or_eq_true, decide_eq_true_eq, List.isEmpty_iff, List.map_eq_nil_iff] at hwf
    have h1 : tokErr t rest names = none :=
      tokErr_wf hwf.1.1 (fun hf => hwf.1.2.resolve_right (fun h => h hf))
        (fun x hx hxn => hn x hxn (List.mem_append_left _ hx))
    rw [toksErr, h1, Option.none_or]
    apply ih _ hwf.2 hdt.2
    intro x hx
    rcases List.mem_append.1 hx with hx | hx
    · exact fun h => hn x hx (List.mem_append_right _ h)
    · exact hdt.1 x hx

theorem addK_empty_ok (id : Nat) (g : Group) (fr : Bool) (ps : List PathParam) (mi : Nat) :
    (addK id g Node.empty fr ps mi).2 = .ok (.ok ()) := by
  simp [addK, setAndValidateParams]

theorem splitPattern_of_ne {p : Str} (h : p ≠ []) : splitPattern p = splitDots p :=
  if_neg (by simpa using h)

theorem parse_eq_splitPattern (p : Str) :
    Pattern.parse p =
      if wfPat ((splitPattern p).map parseTok) then some ((splitPattern p).map parseTok) else none := by
  unfold Pattern.parse splitPattern
  split
  · rfl
  · rfl

theorem parse_splitPattern {pattern : Str} {ts : List Tok} (hp : Pattern.parse pattern = some ts) :
    ts = (splitPattern pattern).map parseTok ∧ wfPat ts = true := by
  rw [parse_eq_splitPattern] at hp
  split at hp
  · cases hp; exact ⟨rfl, ‹_›⟩
  · cases hp

theorem isValid_eq_wfPat (p : Str) : Pattern.isValid p = wfPat ((splitPattern p).map parseTok) := by
  rw [Pattern.isValid_eq_parse, parse_eq_splitPattern]
  split <;> simp [*]

/-! ## the parameters a pattern stores (`paramsOf`) and the values lookup reads for them -/

theorem mem_tokParams {t : Str} {idx : Nat} {pp : PathParam} :
    pp ∈ tokParams t idx ↔ t = dollar :: pp.name ∧ pp.idx = idx := by
  obtain ⟨name, j⟩ := pp
  cases t with
  | nil => simp [tokParams]
  | cons c r =>
    simp only [tokParams]
    split <;> simp [*, eq_comm]

theorem mem_paramsOf {toks : List Str} {i : Nat} {pp : PathParam} :
    pp ∈ paramsOf toks i ↔ ∃ j, toks[j]? = some (dollar :: pp.name) ∧ pp.idx = i + j := by
  induction toks generalizing i with
  | nil => simp [paramsOf]
  | cons t r ih =>
    rw [paramsOf, List.mem_append, ih, mem_tokParams]
    constructor
    · rintro (⟨h1, h2⟩ | ⟨j, h1, h2⟩)
      · exact ⟨0, congrArg some h1, h2⟩
      · exact ⟨j + 1, h1, h2.trans (Nat.succ_add_eq_add_succ i j)⟩
    · rintro ⟨j, h1, h2⟩
      cases j with
      | zero => exact .inl ⟨Option.some.inj h1, h2⟩
      | succ j => exact .inr ⟨j, h1, h2.trans (Nat.succ_add_eq_add_succ i j).symm⟩

theorem paramsOf_idx_lt {toks : List Str} {i : Nat} {pp : PathParam} (h : pp ∈ paramsOf toks i) :
    pp.idx < i + toks.length := by
  obtain ⟨j, hj, hidx⟩ := mem_paramsOf.1 h
  have := (List.getElem?_eq_some_iff.1 hj).1
  omega

theorem toksErr_nodup {toks : List Str} {names : List Str} (i : Nat) (h : toksErr toks names = none)
    (hn : names.Nodup) : (names ++ (paramsOf toks i).map (·.name)).Nodup := by
  induction toks generalizing names i with
  | nil => simpa [paramsOf] using hn
  | cons t rest ih =>
    simp only [toksErr, Option.or_eq_none_iff] at h
    have ht : (tokNames t).Nodup := by
      rw [tokNames_eq]; cases parseTok t <;> simp [tagsOf]
    have := ih (i + 1) h.2 (List.nodup_append.2 ⟨hn, ht, fun a ha b hb hab => (tokErr_none h.1).2 b hb (hab ▸ ha)⟩)
    simpa [paramsOf, names_tokParams] using this

/-- `paramValues ps toks mi` is this fold from `[]`; the start is general for the induction -/
theorem paramValues_spec (toks : List Str) (mi : Nat) (ps : List PathParam) :
    ∀ (acc : List (Str × Str)), (∀ pp ∈ ps, pp.idx + mi < toks.length) → (ps.map (·.name)).Nodup →
    ∃ m, ps.foldlM (fun acc pp => (toks[pp.idx + mi]?).map (fun v => mapSet acc pp.name v)) acc = some m ∧
      (∀ pp ∈ ps, mapGet m pp.name = toks[pp.idx + mi]?) ∧
      (∀ k, k ∉ ps.map (·.name) → mapGet m k = mapGet acc k) := by
  induction ps with
  | nil => intro acc _ _; exact ⟨acc, by simp, by simp, by simp⟩
  | cons p r ih =>
    intro acc hlt hnd
    have hp := hlt p (by simp)
    simp only [List.map_cons, List.nodup_cons] at hnd
    obtain ⟨m, hm, hin, hout⟩ := ih (mapSet acc p.name toks[p.idx + mi]) (fun pp hpp => hlt pp (by simp [hpp])) hnd.2
    refine ⟨m, ?_, ?_, ?_⟩
    · simp [List.foldlM_cons, List.getElem?_eq_getElem hp, hm]
    · intro pp hpp
      simp only [List.mem_cons] at hpp
      rcases hpp with rfl | hpp
      · rw [hout _ hnd.1, Pattern.mapGet_mapSet, if_pos rfl, List.getElem?_eq_getElem hp]
      · exact hin pp hpp
    · intro k hk
      simp only [List.map_cons, List.mem_cons, not_or] at hk
      rw [hout k hk.2, Pattern.mapGet_mapSet, if_neg hk.1]

/-! ## the invariant behind `lookup_never_panics` -/

/-- a node at depth `d`: not a mount point, and every token index it stores is `< d` -/
def NodeOK (x : Node) (d : Nat) : Prop :=
  x.mounted = false ∧ (∀ pp ∈ x.params, pp.idx < d) ∧
  (∀ reg, x.hs = some reg → ∀ parts, reg.group = some parts → ∀ i, GPart.idx i ∈ parts → i < d)

def Good (n : Node) : Prop :=
  ∀ pat x, getAt n pat = some x → NodeOK x pat.length

theorem NodeOK.mono {x : Node} {d d' : Nat} (h : NodeOK x d) (hd : d ≤ d') : NodeOK x d' :=
  ⟨h.1, fun pp hpp => Nat.lt_of_lt_of_le (h.2.1 pp hpp) hd,
   fun reg hr parts hp i hi => Nat.lt_of_lt_of_le (h.2.2 reg hr parts hp i hi) hd⟩

theorem Good.unmounted {n : Node} (h : Good n) : Unmounted n := fun pat x hx => (h pat x hx).1

theorem NodeOK.empty (d : Nat) : NodeOK Node.empty d := ⟨rfl, by simp, by simp⟩

theorem Good.empty : Good Node.empty := by
  intro pat x h
  obtain ⟨rfl, rfl⟩ := getAt_empty h
  exact .empty 0

theorem Good.putAt {n : Node} (h : Good n) {g : Node → Node} (hgc : ∀ x e, child (g x) e = child x e)
    (path : List Elem) (hg : ∀ x, NodeOK x path.length → NodeOK (g x) path.length) :
    Good (putAt n path g) := by
  have hold : ∀ pat, NodeOK ((getAt n pat).getD .empty) pat.length := by
    intro pat
    cases hp : getAt n pat with
    | none => exact .empty _
    | some x => exact h pat x hp
  intro pat x' hx'
  rcases getAt_putAt hgc path n pat with rfl | ⟨e, r, c, rfl, h1⟩ | ⟨_, h1⟩
  · rw [getAt_putAt_self] at hx'
    cases hx'
    exact hg _ (hold pat)
  · rw [h1] at hx'
    cases hx'
    simpa [NodeOK] using hold pat
  · exact h pat x' (h1 ▸ hx')

/-- both continuations keep the parameters of the node or set the ones `fetch` hands them -/
theorem NodeOK.setParams {x : Node} {d : Nat} (h : NodeOK x d) {ps q : List PathParam} (hps : ∀ pp ∈ ps, pp.idx < d)
    (hq : q = ps ∨ q = x.params) : NodeOK (x.setParams q) d := by
  refine ⟨by rw [Node.mounted_setParams]; exact h.1, ?_, by rw [Node.hs_setParams]; exact h.2.2⟩
  rw [Node.params_setParams]
  rcases hq with rfl | rfl
  · exact hps
  · exact h.2.1

theorem NodeOK.addK {x0 : Node} {D : Nat} (h0 : NodeOK x0 D) (id : Nat) {g : Group}
    (hg : ∀ parts, g = some parts → ∀ i, GPart.idx i ∈ parts → i < D)
    (fr : Bool) {ps : List PathParam} (hps : ∀ pp ∈ ps, pp.idx < D) :
    NodeOK (addK id g x0 fr ps 0).1 D := by
  rcases addK_cases id g x0 fr ps 0 with ⟨_, h⟩ | ⟨_, q, hq, h⟩
  · rw [h]; exact h0
  · have hq := h0.setParams hps hq
    rw [h, rebase_zero]
    refine ⟨by rw [Node.mounted_setHs]; exact hq.1, by rw [Node.params_setHs]; exact hq.2.1, ?_⟩
    intro reg hr parts hp i hi
    rw [Node.hs_setHs] at hr
    cases hr
    exact hg parts hp i hi

theorem NodeOK.listenK {x0 : Node} {D : Nat} (h0 : NodeOK x0 D) (id : Nat)
    (fr : Bool) {ps : List PathParam} (hps : ∀ pp ∈ ps, pp.idx < D) :
    NodeOK (listenK id x0 fr ps 0).1 D := by
  rcases listenK_cases id x0 fr ps 0 with ⟨_, h⟩ | ⟨q, hq, h⟩
  · rw [h]; exact h0
  · have hq := h0.setParams hps hq
    rw [h]
    exact ⟨by rw [Node.mounted_addListener]; exact hq.1, by rw [Node.params_addListener]; exact hq.2.1,
      by rw [Node.hs_addListener]; exact hq.2.2⟩

theorem Good.regAt {root : Node} (h : Good root) (k : FetchK (Except RegErr Unit)) (pattern : Str)
    (hk : ∀ {x0}, NodeOK x0 (splitPattern pattern).length →
      ∀ fr {ps}, (∀ pp ∈ ps, pp.idx < (splitPattern pattern).length) →
      NodeOK (k x0 fr ps 0).1 (splitPattern pattern).length)
    (hkc : ∀ x0 fr ps mi e, child (k x0 fr ps mi).1 e = child x0 e) :
    Good (regAt k root pattern).1 := by
  rcases regAt_cases k root pattern with ⟨pre, e, hr⟩ | ⟨fr, ps, mi, hr, _, hx⟩
  · rw [hr]; exact h.putAt (fun _ _ => rfl) pre (fun _ hx => hx)
  · obtain ⟨rfl, rfl⟩ := hx h.unmounted
    rw [hr]
    refine h.putAt (fun x e => hkc x fr _ 0 e) _ (fun x hx => ?_)
    simp only [List.length_map] at hx ⊢
    exact hk hx fr (fun pp hpp => by simpa using paramsOf_idx_lt hpp)

theorem Good.addAt {root : Node} (h : Good root) (pattern : Str) (id : Nat) {g : Group}
    (hg : ∀ parts, g = some parts → ∀ i, GPart.idx i ∈ parts → i < (splitPattern pattern).length) :
    Good (addAt root pattern id g).1 := by
  rw [addAt_eq]
  exact h.regAt _ pattern (fun h0 fr _ hps => h0.addK id hg fr hps) (child_addK id g)

theorem Good.addHandlerAt {root : Node} (h : Good root) (pattern : Str) (id : Nat) (group : Str) (par : Bool) :
    Good (addHandlerAt root pattern id group par).1 := by
  unfold Mux.addHandlerAt  -- the bare name is this theorem
  split
  · exact h.addAt pattern id (by simp)
  · split
    · exact h
    · rename_i g hg
      refine h.addAt pattern id fun parts hp i hi => ?_
      subst hp
      obtain ⟨name, hn⟩ := parseGroup_idx hg hi
      exact (List.getElem?_eq_some_iff.1 hn).1

theorem Good.addListenerAt {root : Node} (h : Good root) (pattern : Str) (id : Nat) :
    Good (addListenerAt root pattern id).1 := by
  rw [addListenerAt_eq]
  exact h.regAt _ pattern (fun h0 fr _ hps => h0.listenK id fr hps) (child_listenK id)

/-! ## `GetHandler` on a `Good` tree: every token it asks for is there -/

theorem foldlM_some {α β} (f : β → α → Option β) (l : List α) (h : ∀ a ∈ l, ∀ b, ∃ b', f b a = some b')
    (b : β) : ∃ b', l.foldlM f b = some b' := by
  induction l generalizing b with
  | nil => exact ⟨b, rfl⟩
  | cons a l ih =>
    obtain ⟨b', hb⟩ := h a (List.mem_cons_self ..) b
    obtain ⟨b'', hb'⟩ := ih (fun a ha => h a (List.mem_cons_of_mem _ ha)) b'
    exact ⟨b'', by simp [List.foldlM_cons, hb, hb']⟩

theorem paramValues_isSome (toks : List Str) (mi : Nat) (ps : List PathParam)
    (h : ∀ pp ∈ ps, pp.idx + mi < toks.length) : ∃ m, paramValues ps toks mi = some m :=
  foldlM_some _ ps (fun pp hpp _ => ⟨_, by rw [List.getElem?_eq_getElem (h pp hpp)]; rfl⟩) []

theorem groupToString_isSome (g : Group) (rname : Str) (tokens : List Str)
    (h : ∀ parts, g = some parts → ∀ i, GPart.idx i ∈ parts → i < tokens.length) :
    ∃ s, groupToString g rname tokens = some s := by
  unfold groupToString
  split
  · exact ⟨_, rfl⟩
  · exact ⟨_, rfl⟩
  · exact ⟨_, rfl⟩
  · rename_i parts _ _
    refine foldlM_some _ parts (fun gp hgp acc => ?_) []
    cases gp with
    | str s => exact ⟨_, rfl⟩
    | idx i => exact ⟨_, by simp only [List.getElem?_eq_getElem (h parts rfl i hgp)]; rfl⟩

theorem getHandler_ne_panic (root : Node) (hg : Good root) (path rname : Str) :
    getHandler path root rname ≠ .panic := by
  unfold getHandler
  simp only
  split
  · simp
  · rename_i subrname _
    split
    · split
      · simp
      · rename_i h hh
        obtain ⟨s, hs⟩ := groupToString_isSome h.group rname [] ((hg [] root (getAt_nil root)).2.2 h hh)
        simp [hs]
    · split
      · simp
      · rename_i f hf
        split
        · simp
        · rename_i h hh
          obtain ⟨pat, hpat, hm, _⟩ := matchNode_spec hf
          have hok := (hg pat f.node hpat).mono (EMatch_length hm)
          rw [matchNode_mountIdx hg.unmounted hf]
          obtain ⟨ps, hps⟩ := paramValues_isSome (splitDots subrname) 0 f.node.params hok.2.1
          obtain ⟨s, hs⟩ := groupToString_isSome h.group rname (splitDots subrname) (hok.2.2 h hh)
          simp [hps, hs]

/-! ## one registration on the empty mux -/

theorem addHandlerAt_ok {root : Node} {pattern : Str} {id : Nat} {group : Str} {par : Bool} {root' : Node}
    (h : addHandlerAt root pattern id group par = (root', .ok ())) :
    ∃ g, (if par then g = some [] else parseGroup group pattern = .ok g) ∧
      addAt root pattern id g = (root', .ok ()) := by
  unfold addHandlerAt at h
  split at h
  · rename_i hp; exact ⟨some [], by simp [hp], h⟩
  · rename_i hp
    split at h
    · simp at h
    · rename_i g hg; exact ⟨g, by simp [hp, hg], h⟩

theorem WildLast.not_mem {a b : List Elem} (h : WildLast (a ++ b)) (hb : b ≠ []) : Elem.wild ∉ a := by
  induction a with
  | nil => simp
  | cons e a ih =>
    have he : e ≠ .wild := fun he => hb (List.append_eq_nil_iff.1 (h.1 he)).2
    simpa [he.symm] using ih h.2

/-- every other node of the tree is a new empty node strictly above the registered one: without a
handler, and not reached through `>` -/
theorem addHandlerAt_empty_found {pattern : Str} {id : Nat} {group : Str} {par : Bool} {root' : Node}
    {toks : List Str} {f : Found}
    (h : addHandlerAt Node.empty pattern id group par = (root', .ok ()))
    (hm : matchNode root' toks 0 0 = some f) :
    ∃ g, (if par then g = some [] else parseGroup group pattern = .ok g) ∧
      f.mountIdx = 0 ∧
      f.node = (Node.empty.setParams (paramsOf (splitPattern pattern) 0)).setHs (some ⟨id, g⟩) ∧
      (splitPattern pattern).length ≤ toks.length ∧
      ((paramsOf (splitPattern pattern) 0).map (·.name)).Nodup := by
  have hgood : Good root' := by
    have := Good.empty.addHandlerAt pattern id group par
    rwa [h] at this
  obtain ⟨g, hg, hadd⟩ := addHandlerAt_ok h
  obtain ⟨fr, ps, mi, _, hroot, he, hx⟩ := addAt_ok (congrArg Prod.snd hadd)
  obtain ⟨rfl, rfl⟩ := hx Good.empty.unmounted
  rw [hadd] at hroot
  obtain ⟨pat, hpat, hmatch, hh, _⟩ := matchNode_spec hm
  rw [show root' = _ from hroot] at hpat
  have hend : pat = (splitPattern pattern).map elemOf ∧
      f.node = (Node.empty.setParams (paramsOf (splitPattern pattern) 0)).setHs (some ⟨id, g⟩) := by
    rcases getAt_putAt (fun x e => child_addK id g x fr _ 0 e) ((splitPattern pattern).map elemOf) Node.empty pat
      with rfl | ⟨e, r, c, hpath, h1⟩ | ⟨hp, h1⟩
    · rw [getAt_putAt_self, getD_getAt_empty] at hpat
      exact ⟨rfl, by simp [← Option.some.inj hpat, addK, setAndValidateParams, rebase_zero]⟩
    · rw [h1] at hpat
      rw [← Option.some.inj hpat] at hh
      rcases hh with hh | hh
      · simp [getD_getAt_empty] at hh
      · exact absurd (List.mem_of_getLast? hh) (WildLast.not_mem (hpath ▸ toksErr_wildLast he) (by simp))
    · rw [h1] at hpat
      exact absurd ((getAt_empty hpat).1 ▸ List.nil_prefix) hp
  obtain ⟨rfl, hnode⟩ := hend
  exact ⟨g, hg, matchNode_mountIdx hgood.unmounted hm, hnode, by simpa using EMatch_length hmatch,
    by simpa using toksErr_nodup 0 he List.nodup_nil⟩

end GoRes.Mux
