import GoRes.Model.SvcApi
import GoRes.Lemmas.Pattern
/-! What the service publishes through its own API goes out on NATS subjects.  The token classes in
play are one class (`validToken_eq_isValidPart`), whose members are NATS tokens
(`natsToken_of_isValidPart`); `IsValidRID` is `validName` of the part before the first `?`
(`isValidRID_eq_validName`); a subject is judged token by token, so a subject assembled from parts
is judged part by part (`natsSubject_append_dot`, `natsSubject_eventSubj`).  `withOp_pubs` lists
what a `With` callback can publish; the theorems of C07 on the service API start from these. -/
namespace GoRes.SvcApi
open GoRes.Pattern

/-- the character class of `validToken` -/
def okch (c : Nat) : Bool := decide (c > 32 ∧ c < 127 ∧ c ≠ 46 ∧ c ≠ 42 ∧ c ≠ 62 ∧ c ≠ 63)

theorem validToken_eq (t : Str) : validToken t = (!t.isEmpty && t.all okch) := rfl

theorem okch_eq_okc : okch = okc := by
  funext c
  rw [Bool.eq_iff_iff, okch, decide_eq_true_iff, okc_iff]
  exact ⟨fun ⟨h1, h2, h46, h42, h62, h63⟩ => ⟨h1, Nat.le_of_lt_succ h2, h63, h46, h42, h62⟩,
    fun ⟨h1, h2, h63, h46, h42, h62⟩ => ⟨h1, Nat.lt_succ_of_le h2, h46, h42, h62, h63⟩⟩

/-- `validToken`, `isValidPart` (resource.go) and `Req.isValidPartB` are one class of tokens (the
last two by definition) -/
theorem validToken_eq_isValidPart : validToken = isValidPart := by
  funext t; rw [validToken_eq, okch_eq_okc, isValidPart_eq]

theorem validName_eq (s : Str) : validName s = (splitDots s).all isValidPart := by
  rw [validName, validToken_eq_isValidPart]
  cases s <;> rfl

theorem isValidRID_eq_validName (rid : Str) : isValidRID rid = validName (parseRID rid).1 := by
  rw [isValidRID_eq, validName_eq]; rfl

theorem noDot_of_isValidPart {t : Str} (h : isValidPart t = true) : NoDot t :=
  noDot_of_okc ((isValidPart_iff t).1 h).2

theorem natsToken_of_isValidPart {t : Str} (h : isValidPart t = true) : natsToken t = true := by
  obtain ⟨h1, h2⟩ := (isValidPart_iff t).1 h
  simp only [natsToken, Bool.and_eq_true, List.all_eq_true, decide_eq_true_eq, bne_iff_ne, ne_eq,
    Bool.not_eq_true', List.isEmpty_eq_false_iff]
  refine ⟨⟨⟨h1, fun x hx => ?_⟩, ?_⟩, ?_⟩
  · have := (okc_iff x).1 (h2 x hx); omega
  · rintro rfl; exact absurd (h2 42 (by simp)) (by decide)
  · rintro rfl; exact absurd (h2 62 (by simp)) (by decide)

theorem natsSubject_eq (s : Str) : natsSubject s = (splitDots s).all natsToken := by
  cases s <;> rfl

theorem natsSubject_append_dot (a b : Str) :
    natsSubject (a ++ 46 :: b) = (natsSubject a && natsSubject b) := by
  rw [natsSubject_eq, natsSubject_eq, natsSubject_eq, splitDots_append_dot, List.all_append]

theorem natsSubject_of_noDot {t : Str} (h : NoDot t) : natsSubject t = natsToken t := by
  rw [natsSubject_eq, splitDots_noDot h, List.all_cons, List.all_nil, Bool.and_true]

theorem natsSubject_of_validName {s : Str} (h : validName s = true) : natsSubject s = true := by
  rw [validName_eq, List.all_eq_true] at h
  rw [natsSubject_eq, List.all_eq_true]
  exact fun t ht => natsToken_of_isValidPart (h t ht)

theorem natsSubject_eventSubj {rname name : Str} (hr : validName rname = true)
    (hn : natsToken name = true) (hd : NoDot name) : natsSubject (eventSubj rname name) = true := by
  show natsSubject (b!"event" ++ 46 :: (rname ++ 46 :: name)) = true
  rw [natsSubject_append_dot, natsSubject_append_dot, natsSubject_of_noDot hd, hn,
    natsSubject_of_validName hr]
  decide

theorem withOp_pubs {pats : List Str} {rid : Str} {act : Act} {l : List Pub}
    (h : withOp pats rid act = .pubs l) :
    (∃ name pl, l = [⟨eventSubj (parseRID rid).1 name, pl⟩] ∧ isValidPart name = true) ∨
    l = [⟨b!"system.reset", b!"{\"resources\":" ++ jsonList [(parseRID rid).1] ++ [125]⟩] := by
  have ev : ∀ name pl, isValidPart name = true →
      Out.pubs [⟨eventSubj (parseRID rid).1 name, pl⟩] = .pubs l →
      ∃ name pl, l = [⟨eventSubj (parseRID rid).1 name, pl⟩] ∧ isValidPart name = true :=
    fun name pl hn h => ⟨name, pl, (Out.pubs.inj h).symm, hn⟩
  unfold withOp at h
  simp only at h
  split at h
  · cases h
  · cases act with
    | custom name =>
      simp only at h
      split at h
      · cases h
      · next hc =>
        simp only [Bool.or_eq_true, Bool.not_eq_true', not_or, Bool.not_eq_true,
          Bool.not_eq_false] at hc
        exact Or.inl (ev name _ hc.2 h)
    | reset => exact Or.inr (Out.pubs.inj h).symm
    | resource => cases h
    | _ => exact Or.inl (ev _ _ (by decide) h)

theorem natsSubject_of_path {subj : Str} (h : isValidPath subj = true) (hne : subj ≠ []) :
    natsSubject subj = true :=
  natsSubject_of_validName <| (validName_eq subj).trans <|
    List.all_eq_true.2 fun t ht => isValidPart_of_litOk (isValidPath_lits h hne t ht)

end GoRes.SvcApi
