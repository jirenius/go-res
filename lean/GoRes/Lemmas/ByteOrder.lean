import GoRes.Model.Index
/-! The bytewise order of the database keys: `ble`/`blt` decide the order the library puts on
lists (`ble_iff_le`, `blt_iff_lt`), so the order laws are the library's; the keys with a given
prefix are an interval of it (`prefix_iff_between`), `prefixEnd` is the end of that interval; a
strictly ascending list (`Asc`) is determined by its members (`sorted_ext`), and `kinsert`, the
insertion of the database and of the client's model read on keys, keeps one ascending
(`mem_kinsert`, `kinsert_sorted`). -/
namespace GoRes.Index

@[simp] theorem ble_nil (b : Bytes) : ble [] b = true := by cases b <;> rfl
@[simp] theorem ble_cons_nil (a : Nat) (as : Bytes) : ble (a :: as) [] = false := rfl
theorem ble_cons_cons (a b : Nat) (as bs : Bytes) :
    ble (a :: as) (b :: bs) = if a < b then true else if a > b then false else ble as bs := rfl

theorem ble_iff_le {a b : Bytes} : ble a b = true ↔ a ≤ b := by
  induction a generalizing b with
  | nil => simp
  | cons x xs ih =>
    cases b with
    | nil => simp
    | cons y ys =>
      rw [ble_cons_cons, List.cons_le_cons_iff, ← ih]
      rcases Nat.lt_trichotomy x y with h | rfl | h
      · simp [h]
      · simp
      · simp [h, Nat.lt_asymm h, Nat.ne_of_gt h]

theorem blt_iff {a b : Bytes} : blt a b = true ↔ ble a b = true ∧ a ≠ b := by
  simp [blt]

theorem blt_iff_lt {a b : Bytes} : blt a b = true ↔ a < b := by
  rw [blt_iff, ble_iff_le, Std.lt_iff_le_and_ne]

theorem blt_ble {a b : Bytes} (h : blt a b = true) : ble a b = true := (blt_iff.1 h).1

theorem ble_of_not_blt {a b : Bytes} (h : blt a b = false) : ble b a = true :=
  ble_iff_le.2 (Std.not_lt.1 fun hlt => by rw [blt_iff_lt.2 hlt] at h; cases h)

theorem blt_of_blt_of_ble {a b c : Bytes} (h1 : blt a b = true) (h2 : ble b c = true) : blt a c = true :=
  blt_iff_lt.2 (Std.lt_of_lt_of_le (blt_iff_lt.1 h1) (ble_iff_le.1 h2))

theorem blt_of_ble_of_blt {a b c : Bytes} (h1 : ble a b = true) (h2 : blt b c = true) : blt a c = true :=
  blt_iff_lt.2 (Std.lt_of_le_of_lt (ble_iff_le.1 h1) (blt_iff_lt.1 h2))

theorem blt_trans {a b c : Bytes} (h1 : blt a b = true) (h2 : blt b c = true) : blt a c = true :=
  blt_of_blt_of_ble h1 (blt_ble h2)

theorem ble_append_left (p a b : Bytes) : ble (p ++ a) (p ++ b) = ble a b := by
  induction p with
  | nil => rfl
  | cons x xs ih => simp [ble_cons_cons, ih]

theorem blt_append_left (p a b : Bytes) : blt (p ++ a) (p ++ b) = blt a b := by
  have : (p ++ a != p ++ b) = (a != b) := by
    rw [Bool.eq_iff_iff]; simp [bne_iff_ne]
  simp only [blt, ble_append_left, this]

/-! ## prefixes are intervals of the order -/

theorem ble_of_isPrefixOf {p k : Bytes} (h : p.isPrefixOf k = true) : ble p k = true :=
  ble_iff_le.2 (List.isPrefixOf_iff_prefix.1 h).le

theorem not_blt_of_isPrefixOf {p k : Bytes} (h : p.isPrefixOf k = true) : blt k p = false :=
  Bool.eq_false_iff.2 fun hb => Std.not_le_of_gt (blt_iff_lt.1 hb) (List.isPrefixOf_iff_prefix.1 h).le

theorem prefix_iff_between (q : Bytes) (c : Nat) (k : Bytes) :
    q ++ [c] <+: k ↔ q ++ [c] ≤ k ∧ k < q ++ [c + 1] := by
  induction q generalizing k with
  | nil =>
    cases k with
    | nil => simp
    | cons y ys =>
      simp only [List.nil_append, List.cons_le_cons_iff, List.cons_lt_cons_iff, List.cons_prefix_cons,
        List.nil_prefix, List.nil_le, List.not_lt_nil, and_true, and_false, or_false]
      omega
  | cons x xs ih =>
    cases k with
    | nil => simp
    | cons y ys =>
      simp only [List.cons_append, List.cons_le_cons_iff, List.cons_lt_cons_iff, List.cons_prefix_cons, ih]
      -- equal heads: the tails decide; different heads: `k` is on one side of the interval only
      by_cases h : x = y
      · subst h; simp [Nat.lt_irrefl]
      · simp only [h, Ne.symm h, false_and, or_false, false_iff]; omega

theorem isPrefixOf_of_between {p k k' : Bytes} (h1 : ble p k = true) (h2 : ble k k' = true)
    (h3 : p.isPrefixOf k' = true) : p.isPrefixOf k = true := by
  rcases List.eq_nil_or_concat p with rfl | ⟨q, c, rfl⟩
  · rfl
  · rw [List.concat_eq_append] at h1 h3 ⊢
    rw [List.isPrefixOf_iff_prefix, prefix_iff_between] at h3 ⊢
    exact ⟨ble_iff_le.1 h1, Std.lt_of_le_of_lt (ble_iff_le.1 h2) h3.2⟩

theorem blt_of_blt_succ {q k : Bytes} {c : Nat} (h1 : blt k (q ++ [c + 1]) = true)
    (h2 : (q ++ [c]).isPrefixOf k = false) : blt k (q ++ [c]) = true := by
  rw [← Bool.not_eq_true, List.isPrefixOf_iff_prefix, prefix_iff_between] at h2
  exact blt_iff_lt.2 (Std.not_le.1 fun h => h2 ⟨h, blt_iff_lt.1 h1⟩)

theorem blt_of_not_prefix_ff {t r : Bytes} (ht : ∀ x ∈ t, x = 255) (hr : ∀ x ∈ r, x ≤ 255)
    (h : t.isPrefixOf r = false) : blt r t = true := by
  rw [← Bool.not_eq_true, List.isPrefixOf_iff_prefix] at h
  rw [blt_iff_lt]
  induction t generalizing r with
  | nil => exact absurd List.nil_prefix h
  | cons x xs ih =>
    cases r with
    | nil => exact List.nil_lt_cons ..
    | cons y ys =>
      obtain rfl := ht x (List.mem_cons_self ..)
      rw [List.cons_lt_cons_iff]
      -- a smaller first byte decides; after a first byte 0xFF the rest of the key does
      rcases Nat.lt_or_eq_of_le (hr y (List.mem_cons_self ..)) with hy | rfl
      · exact .inl hy
      · exact .inr ⟨rfl, ih (fun x hx => ht x (List.mem_cons_of_mem _ hx))
          (fun x hx => hr x (List.mem_cons_of_mem _ hx)) fun hp => h (List.cons_prefix_cons.2 ⟨rfl, hp⟩)⟩

/-! ## the end of a prefix range (`prefixEnd`)

The reverse iterator starts below the end of the prefix and walks down while the keys have the
prefix.  That visits all of them because (a) every key with the prefix is below the end and (b) a
key below the end that does not have the prefix is below the prefix, so none with it follows. -/

theorem prefixEnd_cases (p : Bytes) :
    (prefixEnd p = none ∧ ∀ x ∈ p, x = 255) ∨
    ∃ q c t, p = q ++ c :: t ∧ (∀ x ∈ t, x = 255) ∧ c ≠ 255 ∧ prefixEnd p = some (q ++ [c + 1]) := by
  have hp : p = (p.reverse.dropWhile (· = 255)).reverse ++ (p.reverse.takeWhile (· = 255)).reverse := by
    rw [← List.reverse_append, List.takeWhile_append_dropWhile, List.reverse_reverse]
  have ht : ∀ x ∈ (p.reverse.takeWhile (· = 255)).reverse, x = 255 := by
    intro x hx
    have := List.all_eq_true.1 (List.all_takeWhile (l := p.reverse) (p := fun x : Nat => decide (x = 255))) x
      (List.mem_reverse.1 hx)
    simpa using this
  unfold prefixEnd
  cases hd : p.reverse.dropWhile (· = 255) with
  | nil =>
    rw [hd, List.reverse_nil, List.nil_append] at hp
    exact .inl ⟨rfl, hp ▸ ht⟩
  | cons c d =>
    have hc := List.head_dropWhile_not (fun x : Nat => decide (x = 255)) (l := p.reverse) (by rw [hd]; simp)
    exact .inr ⟨d.reverse, c, _, by simpa [hd] using hp, ht, by simpa [hd] using hc, by simp⟩

theorem prefixEnd_some {p e : Bytes} (h : prefixEnd p = some e) :
    ∃ q c t, p = q ++ c :: t ∧ (∀ x ∈ t, x = 255) ∧ c ≠ 255 ∧ e = q ++ [c + 1] := by
  obtain ⟨h', -⟩ | ⟨q, c, t, h1, h2, h3, h4⟩ := prefixEnd_cases p
  · rw [h'] at h; cases h
  · exact ⟨q, c, t, h1, h2, h3, Option.some.inj (h.symm.trans h4)⟩

theorem prefixEnd_none {p : Bytes} (h : prefixEnd p = none) : ∀ x ∈ p, x = 255 := by
  obtain ⟨-, h'⟩ | ⟨_, _, _, _, _, _, h'⟩ := prefixEnd_cases p
  · exact h'
  · rw [h'] at h; cases h

theorem blt_prefixEnd_of_isPrefixOf {p e k : Bytes} (he : prefixEnd p = some e) (h : p.isPrefixOf k = true) :
    blt k e = true := by
  obtain ⟨q, c, t, rfl, -, -, rfl⟩ := prefixEnd_some he
  obtain ⟨r, rfl⟩ := List.isPrefixOf_iff_prefix.1 h
  rw [List.append_assoc, blt_append_left]
  simp [blt, ble_cons_cons]

/-- (b), in terms of the shape of the prefix: only what is compared with the 0xFF bytes `t` has to
consist of bytes, the rest of a key that begins with `q ++ [c]` (`hk`; `scan_reverse_query` has
this of the keys of its index, not of all keys) -/
theorem blt_of_blt_end {q t k : Bytes} {c : Nat} (ht : ∀ x ∈ t, x = 255)
    (hlt : blt k (q ++ [c + 1]) = true) (hP : (q ++ c :: t).isPrefixOf k = false)
    (hk : ∀ r, k = q ++ c :: r → ∀ x ∈ r, x ≤ 255) :
    blt k (q ++ c :: t) = true := by
  cases hq : (q ++ [c]).isPrefixOf k with
  | true =>
    obtain ⟨r, rfl⟩ := List.isPrefixOf_iff_prefix.1 hq
    have e1 : ∀ t, q ++ c :: t = (q ++ [c]) ++ t := by simp
    rw [e1 t] at hP ⊢
    rw [blt_append_left]
    apply blt_of_not_prefix_ff ht (hk r (e1 r).symm)
    rw [← Bool.not_eq_true, List.isPrefixOf_iff_prefix] at hP ⊢
    intro h; exact hP ((List.prefix_append_right_inj _).2 h)
  | false =>
    refine blt_of_blt_of_ble (blt_of_blt_succ hlt hq) ?_
    apply ble_of_isPrefixOf
    rw [List.isPrefixOf_iff_prefix]
    exact ⟨t, by simp⟩

theorem blt_of_blt_prefixEnd {p e k : Bytes} (he : prefixEnd p = some e) (hlt : blt k e = true)
    (hP : p.isPrefixOf k = false) (hk : ∀ x ∈ k, x ≤ 255) : blt k p = true := by
  obtain ⟨q, c, t, rfl, ht, -, rfl⟩ := prefixEnd_some he
  exact blt_of_blt_end ht hlt hP fun r hr x hx => hk x (hr ▸ List.mem_append_right _ (List.mem_cons_of_mem _ hx))

/-! ## ascending lists -/

/-- strictly ascending, as the database holds and iterates its keys -/
def Asc (l : List Bytes) : Prop := l.Pairwise (fun a b => blt a b = true)

theorem sorted_ext {l1 l2 : List Bytes} (h1 : Asc l1) (h2 : Asc l2) (h : ∀ x, x ∈ l1 ↔ x ∈ l2) : l1 = l2 := by
  have lt : ∀ {l : List Bytes}, Asc l → l.Pairwise (· < ·) := fun hl => hl.imp blt_iff_lt.1
  exact ((List.perm_ext_iff_of_nodup ((lt h1).imp Std.ne_of_lt) ((lt h2).imp Std.ne_of_lt)).2 h).eq_of_pairwise
    (fun _ _ _ _ hab hba => absurd hba (Std.not_gt_of_lt hab)) (lt h1) (lt h2)

/-- insertion into a strictly ascending list of keys (`dbInsert`, and `QueryHandler.minsert`, on keys only) -/
def kinsert (k : Bytes) : List Bytes → List Bytes
  | [] => [k]
  | k' :: r => if k = k' then k :: r else if blt k k' then k :: k' :: r else k' :: kinsert k r

theorem mem_kinsert (k x : Bytes) (l : List Bytes) : x ∈ kinsert k l ↔ x = k ∨ x ∈ l := by
  fun_induction kinsert k l <;> simp [*, or_left_comm]

theorem kinsert_sorted (k : Bytes) (l : List Bytes) (h : Asc l) : Asc (kinsert k l) := by
  fun_induction kinsert k l with
  | case1 => simp [Asc]
  | case2 r => exact h
  | case3 k' r hne hlt =>
    exact List.pairwise_cons.2 ⟨fun x hx => (List.mem_cons.1 hx).elim (· ▸ hlt)
      fun hx => blt_trans hlt ((List.pairwise_cons.1 h).1 x hx), h⟩
  | case4 k' r hne hlt ih =>
    rw [Asc, List.pairwise_cons] at h
    refine List.pairwise_cons.2 ⟨fun x hx => ?_, ih h.2⟩
    rcases (mem_kinsert k x r).1 hx with rfl | hx
    · exact blt_iff.2 ⟨ble_of_not_blt (Bool.eq_false_iff.2 hlt), Ne.symm hne⟩
    · exact h.1 x hx

end GoRes.Index
