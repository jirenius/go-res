import GoRes.Model.Subs
import GoRes.Lemmas.Pattern
/-! `subscribe` keeps, of the request patterns of all owned patterns, those that no other one makes
redundant (`kept`).  The section on `kept` is order theory with `matches` as an opaque relation: the
kept patterns are pairwise incomparable (`keptIdx_irredundant`), and they cover every pattern once
`matches` is a preorder on the list (`kept_covers`).  The rest supplies the preorder: the patterns
in play are renderings of well-formed token lists (`OwnedOk`, which `allPatterns_ok` carries to the
request patterns, `reqToks`), on which `matches` is `tokMatches` (`Pattern.matches_tok`);
`subs_cover` puts the two together.  Last, on tag-free patterns `tokMatches` is NATS's own subject
matching (`tokMatches_nats`). -/
namespace GoRes.Subs
open Ch Pattern

/-! ## list facts -/

theorem zipIdx_pairwise {α} (l : List α) (k : Nat) :
    (l.zipIdx k).Pairwise (fun x y => x.2 < y.2) := by
  have := List.pairwise_lt_range' (s := k) (n := l.length)
  rwa [← List.zipIdx_map_snd, List.pairwise_map] at this

theorem countP_lt_of {α} {p q : α → Bool} {l : List α} (hpq : ∀ x ∈ l, p x = true → q x = true)
    {a : α} (ha : a ∈ l) (hqa : q a = true) (hpa : p a = false) : l.countP p < l.countP q := by
  have e : l.filter p = (l.filter q).filter p := by
    rw [List.filter_filter]
    refine List.filter_congr fun x hx => ?_
    cases h : p x with
    | false => rfl
    | true => rw [hpq x hx h]; rfl
  rw [List.countP_eq_length_filter, List.countP_eq_length_filter, e]
  exact List.length_filter_lt_length_iff_exists.2 ⟨a, List.mem_filter.2 ⟨ha, hqa⟩, by simp [hpa]⟩

theorem getLast?_append_cons_of_ne {α} (a : List α) (c : α) (X : List α) (h : X ≠ []) :
    (a ++ c :: X).getLast? = X.getLast? := by
  cases X with
  | nil => exact absurd rfl h
  | cons x X => rw [List.getLast?_append, List.getLast?_cons_cons, List.getLast?_cons]; rfl

/-! ## `kept`, abstractly -/

theorem kept_eq_false_iff {ps : List Str} {i : Nat} {p : Str} :
    kept ps i p = false ↔ ∃ q j, ps[j]? = some q ∧ i ≠ j ∧ Pattern.matches q p = true ∧
      (j < i ∨ Pattern.matches p q = false) := by
  unfold kept
  rw [Bool.not_eq_false', List.any_eq_true]
  constructor
  · rintro ⟨⟨q, j⟩, hmem, hx⟩
    exact ⟨q, j, List.mem_zipIdx_iff_getElem?.1 hmem, by simpa [and_assoc] using hx⟩
  · rintro ⟨q, j, hq, hx⟩
    exact ⟨(q, j), List.mem_zipIdx_iff_getElem?.2 hq, by simpa [and_assoc] using hx⟩

theorem kept_spec {ps : List Str} {i j : Nat} {p q : Str} (hk : kept ps i p = true)
    (hq : ps[j]? = some q) (hij : i ≠ j) (hm : Pattern.matches q p = true) :
    i < j ∧ Pattern.matches p q = true := by
  have h : ¬(j < i ∨ Pattern.matches p q = false) := fun h =>
    Bool.false_ne_true ((kept_eq_false_iff.2 ⟨q, j, hq, hij, hm, h⟩).symm.trans hk)
  exact ⟨by omega, by simpa using fun hb => h (Or.inr hb)⟩

/-- the subscribed list, with indices -/
def keptIdx (ps : List Str) : List (Str × Nat) := ps.zipIdx.filter fun (p, i) => kept ps i p

theorem keptIdx_pairwise (ps : List Str) : (keptIdx ps).Pairwise (fun x y => x.2 < y.2) :=
  (zipIdx_pairwise ps 0).filter _

theorem mem_keptIdx {ps : List Str} {x : Str × Nat} :
    x ∈ keptIdx ps ↔ ps[x.2]? = some x.1 ∧ kept ps x.2 x.1 = true := by
  unfold keptIdx
  rw [List.mem_filter, List.mem_zipIdx_iff_getElem?]

theorem keptIdx_irredundant (ps : List Str) (i j : Nat) (hi : i < (keptIdx ps).length)
    (hj : j < (keptIdx ps).length) (hne : i ≠ j) :
    Pattern.matches (keptIdx ps)[j].1 (keptIdx ps)[i].1 = false := by
  have hpw := List.pairwise_iff_getElem.1 (keptIdx_pairwise ps)
  obtain ⟨hI, kI⟩ := mem_keptIdx.1 (List.getElem_mem hi)
  obtain ⟨hJ, kJ⟩ := mem_keptIdx.1 (List.getElem_mem hj)
  have hidx : (keptIdx ps)[i].2 ≠ (keptIdx ps)[j].2 := by
    rcases Nat.lt_or_gt_of_ne hne with h | h
    · exact Nat.ne_of_lt (hpw i j hi hj h)
    · exact Nat.ne_of_gt (hpw j i hj hi h)
  cases hm : Pattern.matches (keptIdx ps)[j].1 (keptIdx ps)[i].1 with
  | false => rfl
  | true =>
    have h1 := kept_spec kI hJ hidx hm
    have h2 := kept_spec kJ hI hidx.symm h1.2
    omega

theorem kept_covers (ps : List Str)
    (hrefl : ∀ p ∈ ps, Pattern.matches p p = true)
    (htrans : ∀ a ∈ ps, ∀ b ∈ ps, ∀ c ∈ ps, Pattern.matches a b = true → Pattern.matches b c = true →
      Pattern.matches a c = true)
    (i : Nat) (p : Str) (hp : ps[i]? = some p) : ∃ x ∈ keptIdx ps, Pattern.matches x.1 p = true := by
  have hmem : p ∈ ps := List.mem_of_getElem? hp
  cases hk : kept ps i p with
  | true => exact ⟨(p, i), mem_keptIdx.2 ⟨hp, hk⟩, hrefl p hmem⟩
  | false =>
    -- `p` is skipped for some `q`; what covers `q` covers `p`
    obtain ⟨q, j, hq, -, hm, hor⟩ := kept_eq_false_iff.1 hk
    have hqmem : q ∈ ps := List.mem_of_getElem? hq
    have hsub : ∀ x ∈ ps, Pattern.matches x q = true → Pattern.matches x p = true :=
      fun x hx hxq => htrans x hx q hqmem p hmem hxq hm
    have hle := List.countP_mono_left hsub
    have hlt : Pattern.matches p q = false →
        ps.countP (fun x => Pattern.matches x q) < ps.countP (fun x => Pattern.matches x p) :=
      countP_lt_of hsub hmem (hrefl p hmem)
    obtain ⟨x, hx, hxq⟩ := kept_covers ps hrefl htrans j q hq
    exact ⟨x, hx, hsub _ (List.mem_of_getElem? (mem_keptIdx.1 hx).1) hxq⟩
termination_by (ps.countP (fun x => Pattern.matches x p), i)
decreasing_by
  -- `q` is matched by fewer patterns than `p`, or by no more and stands before it
  cases hpq : Pattern.matches p q with
  | false => exact Prod.Lex.left _ _ (hlt hpq)
  | true => exact Prod.Lex.right' _ hle (hor.resolve_right (by simp [hpq]))

/-! ## owned patterns as strings -/

/-- the same as `Props.C09.ownedOk` -/
def OwnedOk (p : Str) : Prop :=
  ∃ ts : List Tok, ts ≠ [] ∧ wfPat ts = true ∧ tagsOf ts = [] ∧ p = render ts

theorem render_lit_cons (t : Str) (ts : List Tok) (hne : ts ≠ []) :
    t ++ dot :: render ts = render (.lit t :: ts) :=
  (render_append [.lit t] ts (by simp) hne).symm

/-- a resource name is a pattern like any other: request subjects are compared as patterns -/
theorem OwnedOk.of_isName {name : List Tok} (h : isName name = true) : OwnedOk (render name) :=
  ⟨name, isName_ne_nil h, wfPat_of_isName h, (isName_isLits h).tagsOf, rfl⟩

theorem OwnedOk.cons_lit {t p : Str} (ht : litOk t = true) (hp : OwnedOk p) : OwnedOk (t ++ dot :: p) := by
  obtain ⟨ts, hne, hw, hnt, rfl⟩ := hp
  exact ⟨.lit t :: ts, by simp, wfPat_lit_cons ht hw, hnt, render_lit_cons t ts hne⟩

theorem matches_refl_of {p : Str} (h : OwnedOk p) : Pattern.matches p p = true := by
  obtain ⟨ts, _, hw, _, rfl⟩ := h
  rw [matches_tok ts ts hw hw]
  exact tokMatches_refl hw

theorem matches_trans_of {a b c : Str} (ha : OwnedOk a) (hb : OwnedOk b) (hc : OwnedOk c)
    (h1 : Pattern.matches a b = true) (h2 : Pattern.matches b c = true) :
    Pattern.matches a c = true := by
  obtain ⟨ta, -, hwa, -, rfl⟩ := ha
  obtain ⟨tb, -, hwb, -, rfl⟩ := hb
  obtain ⟨tc, -, hwc, -, rfl⟩ := hc
  rw [matches_tok _ _ hwa hwb] at h1
  rw [matches_tok _ _ hwb hwc] at h2
  rw [matches_tok _ _ hwa hwc]
  exact tokMatches_trans h1 h2

theorem validSubject_of {s : Str} (h : OwnedOk s) : validSubject s = true := by
  obtain ⟨ts, hne, hw, _, rfl⟩ := h
  unfold validSubject
  rw [splitDots_render hne (wfPat_sOk hw)]
  simp only [Bool.and_eq_true, Bool.not_eq_true', List.isEmpty_eq_false_iff, ne_eq,
    List.all_eq_true, List.mem_map, forall_exists_index, and_imp, decide_eq_true_eq]
  refine ⟨render_ne_nil hne hw, ?_⟩
  rintro _ n hn rfl
  obtain ⟨h1, h2⟩ := Tok.ok_render (wfPat_all_ok hw n hn)
  refine ⟨h1, fun c hc => ?_⟩
  have := (okChar_iff c).1 (h2 c hc)
  omega

/-! ## request patterns as token lists -/

/-- the Go test `pattern[len(pattern)-1] == '>'` finds the full wildcard -/
theorem render_getLast {ts : List Tok} (hw : wfPat ts = true) :
    (render ts).getLast? = some gt ↔ ts.getLast? = some .full := by
  induction ts with
  | nil => simp
  | cons t r ih =>
    cases r with
    | nil =>
      rw [render_cons, rrest_nil, List.append_nil, List.getLast?_singleton, Option.some.injEq]
      exact ⟨fun h => (Tok.gt_mem_render (wfPat_head hw)).1 (List.mem_of_getLast? h), fun h => h ▸ rfl⟩
    | cons y r =>
      have hne := render_ne_nil (ts := y :: r) (by simp) (wfPat_tail hw)
      rw [render_cons, rrest_cons, getLast?_append_cons_of_ne _ _ _ hne, List.getLast?_cons_cons]
      exact ih (wfPat_tail hw)

/-- the tokens of `reqPattern t (render ts)` -/
def reqToks (t : Str) (ts : List Tok) : List Tok :=
  if ts.getLast? ≠ some .full ∧ t ≠ tGet then .lit t :: (ts ++ [.star]) else .lit t :: ts

theorem reqPattern_render (t : Str) (ts : List Tok) (hne : ts ≠ []) (hw : wfPat ts = true) :
    reqPattern t (render ts) = render (reqToks t ts) := by
  have hr := render_ne_nil hne hw
  have hl : (t ++ dot :: render ts).getLast? = (render ts).getLast? :=
    getLast?_append_cons_of_ne _ _ _ hr
  unfold reqPattern reqToks
  simp only [hl, ne_eq, render_getLast hw]
  split
  · rw [← render_lit_cons t _ (by simp), render_append ts [.star] hne (by simp)]
    simp [render, joinDots]
  · rw [render_lit_cons t ts hne]

theorem reqToks_ok {t : Str} {ts : List Tok} (ht : litOk t = true) (hw : wfPat ts = true)
    (hnt : tagsOf ts = []) :
    reqToks t ts ≠ [] ∧ wfPat (reqToks t ts) = true ∧ tagsOf (reqToks t ts) = [] := by
  unfold reqToks
  split
  · next h =>
    exact ⟨by simp, wfPat_lit_cons ht (wfPat_append hw h.1 rfl), by simp [tagsOf, tagsOf_append, hnt]⟩
  · exact ⟨by simp, wfPat_lit_cons ht hw, by simp [tagsOf, hnt]⟩

theorem reqPattern_ok {t p : Str} (ht : litOk t = true) (hp : OwnedOk p) : OwnedOk (reqPattern t p) := by
  obtain ⟨ts, hne, hw, hnt, rfl⟩ := hp
  have := reqToks_ok (t := t) ht hw hnt
  exact ⟨reqToks t ts, this.1, this.2.1, this.2.2, reqPattern_render t ts hne hw⟩

theorem mem_allPatterns {res acc : List Str} {n : Str} :
    n ∈ allPatterns res acc ↔
      (∃ t ∈ [tGet, tCall, tAuth], ∃ p ∈ res, n = reqPattern t p) ∨ ∃ p ∈ acc, n = tAccess ++ dot :: p := by
  unfold allPatterns
  simp only [List.mem_append, List.mem_flatMap, List.mem_map]
  simp only [eq_comm]

theorem allPatterns_ok {res acc : List Str} (hok : ∀ p ∈ res ++ acc, OwnedOk p) :
    ∀ n ∈ allPatterns res acc, OwnedOk n := by
  intro n hn
  rcases mem_allPatterns.1 hn with ⟨t, ht, p, hp, rfl⟩ | ⟨p, hp, rfl⟩
  · have htok : litOk t = true := by
      simp only [List.mem_cons, List.not_mem_nil, or_false] at ht
      rcases ht with rfl | rfl | rfl <;> decide
    exact reqPattern_ok htok (hok p (List.mem_append_left _ hp))
  · exact .cons_lit (by decide) (hok p (List.mem_append_right _ hp))

/-! ## `subscribe`: the kept ones among all request patterns -/

theorem subscribe_eq {c : Cfg} {subs : List Str} (h : subscribe c = some subs) :
    subs = (keptIdx (allPatterns (ownership c).1 (ownership c).2)).map (·.1) := by
  unfold subscribe at h
  simp only at h
  split at h
  · simp at h
  · simp only [Option.some.injEq] at h
    rw [← h]; rfl

theorem subs_subset {ps : List Str} {s : Str} (h : s ∈ (keptIdx ps).map (·.1)) : s ∈ ps := by
  obtain ⟨x, hx, rfl⟩ := List.mem_map.1 h
  exact List.mem_of_getElem? (mem_keptIdx.1 hx).1

theorem subs_cover {ps : List Str} (hok : ∀ n ∈ ps, OwnedOk n) {n subj : Str} (hn : n ∈ ps)
    (hsubj : OwnedOk subj) (hm : Pattern.matches n subj = true) :
    ∃ s ∈ (keptIdx ps).map (·.1), Pattern.matches s subj = true := by
  obtain ⟨i, hi, rfl⟩ := List.mem_iff_getElem.1 hn
  obtain ⟨x, hx, hxn⟩ := kept_covers ps (fun p hp => matches_refl_of (hok p hp))
    (fun a ha b hb c hc => matches_trans_of (hok a ha) (hok b hb) (hok c hc))
    i ps[i] (List.getElem?_eq_getElem hi)
  have hs : x.1 ∈ (keptIdx ps).map (·.1) := List.mem_map_of_mem hx
  exact ⟨x.1, hs, matches_trans_of (hok _ (subs_subset hs)) (hok _ hn) hsubj hxn hm⟩

/-! ## concrete request subjects -/

theorem accPattern_matches {t p : Str} (ht : litOk t = true) (hp : OwnedOk p) {name : List Tok}
    (hname : isName name = true) (hm : Pattern.matches p (render name) = true) :
    Pattern.matches (t ++ dot :: p) (t ++ dot :: render name) = true := by
  obtain ⟨ts, hne, hw, hnt, rfl⟩ := hp
  have hwn := wfPat_of_isName hname
  rw [matches_tok _ _ hw hwn] at hm
  rw [render_lit_cons _ _ hne, render_lit_cons _ _ (isName_ne_nil hname),
    matches_tok _ _ (wfPat_lit_cons ht hw) (wfPat_lit_cons ht hwn), tokMatches_lit_cons]
  exact hm

theorem reqPattern_matches_get {p : Str} (hp : OwnedOk p) {name : List Tok} (hname : isName name = true)
    (hm : Pattern.matches p (render name) = true) :
    Pattern.matches (reqPattern tGet p) (tGet ++ dot :: render name) = true := by
  have : reqPattern tGet p = tGet ++ dot :: p := by simp [reqPattern]
  rw [this]
  exact accPattern_matches (by decide) hp hname hm

theorem reqPattern_matches_method {t p : Str} (ht : litOk t = true) (htg : t ≠ tGet) (hp : OwnedOk p) {name : List Tok}
    (hname : isName name = true) (hm : Pattern.matches p (render name) = true) {s : Str}
    (hs : litOk s = true) :
    Pattern.matches (reqPattern t p) (t ++ dot :: render (name ++ [.lit s])) = true := by
  obtain ⟨ts, hne, hw, hnt, rfl⟩ := hp
  have hwn := wfPat_of_isName hname
  have hname' := isName_append_lit hname hs
  have hwn' := wfPat_of_isName hname'
  rw [matches_tok _ _ hw hwn] at hm
  rw [reqPattern_render _ _ hne hw, render_lit_cons _ _ (isName_ne_nil hname'),
    matches_tok _ _ (reqToks_ok ht hw hnt).2.1 (wfPat_lit_cons ht hwn'), reqToks]
  split
  · next h => rw [tokMatches_lit_cons, tokMatches_append [.star] [.lit s] hm, if_neg h.1]; rfl
  · next h =>
    have hl : ts.getLast? = some .full := Decidable.byContradiction fun hl => h ⟨hl, htg⟩
    have := tokMatches_append [] [.lit s] hm
    rwa [List.append_nil, if_pos hl, ← tokMatches_lit_cons t] at this

/-! ## `Matches` is NATS matching -/

theorem natsCovers_nil (ts : List Str) : natsCovers [] ts = ts.isEmpty := by
  cases ts <;> simp [natsCovers]

theorem natsCovers_cons (p : Str) (ps : List Str) (t : Str) (ts : List Str) :
    natsCovers (p :: ps) (t :: ts) =
      if p = [gt] then ps.isEmpty else ((p = [star] && t ≠ [gt] || p = t) && natsCovers ps ts) := by
  cases ps with
  | nil =>
    simp only [natsCovers, natsCovers_nil]
    split <;> simp
  | cons q ps =>
    simp only [natsCovers]
    split <;> simp_all

/-- rendering is injective on well-formed tokens, so the three string comparisons are comparisons
of tokens -/
theorem Tok.covers_nats {t n : Tok} (ht : t.ok = true) (hn : n.ok = true) (htag : ∀ x, t ≠ .tag x)
    (hf : t ≠ .full) :
    t.covers n = (t.render = [star] && n.render ≠ [gt] || t.render = n.render) := by
  have e1 : t.render = [star] ↔ t = .star := Tok.render_inj (n := .star) ht rfl
  have e2 : n.render = [gt] ↔ n = .full := Tok.render_inj (n := .full) hn rfl
  simp only [ne_eq, e1, e2, Tok.render_inj ht hn]
  cases t with
  | lit a => rw [Bool.eq_iff_iff]; simp [Tok.covers]
  | star => cases n <;> simp [Tok.covers]
  | tag x => exact absurd rfl (htag x)
  | full => exact absurd rfl hf

/-- no tags on the left only: to NATS and to `Tok.covers` alike a `$x` on the right is a token like any other -/
theorem tokMatches_nats (ps ss : List Tok) (hp : wfPat ps = true) (hs : wfPat ss = true)
    (hpt : tagsOf ps = []) :
    tokMatches ps ss = natsCovers (ps.map Tok.render) (ss.map Tok.render) := by
  induction ps generalizing ss with
  | nil => simp [tokMatches_nil_left, natsCovers_nil]
  | cons t r ih =>
    cases ss with
    | nil => simp [tokMatches_nil_right, natsCovers]
    | cons n ns =>
      have ⟨hp1, hp2⟩ := tagsOf_cons_nil hpt
      have e : t.render = [gt] ↔ t = .full := Tok.render_inj (n := .full) (wfPat_head hp) rfl
      rw [List.map_cons, List.map_cons, natsCovers_cons, ← ih ns (wfPat_tail hp) (wfPat_tail hs) hp2,
        tokMatches_cons_cons]
      by_cases hf : t = .full
      · rw [if_pos hf, if_pos (e.2 hf), List.isEmpty_map]
      · rw [if_neg hf, if_neg (mt e.1 hf), Tok.covers_nats (wfPat_head hp) (wfPat_head hs) hp1 hf]

end GoRes.Subs
