import GoRes.Model.Index
import GoRes.Lemmas.Assoc
/-! The stored values as a map from ids: `Assoc` under the names of the model (`Index.vget`, `vset`,
`vdel`, and `vput` for either mutation); what the store model and the index model share. -/
namespace GoRes.Index

variable {V : Type}

@[simp] theorem vget_nil (k : Bytes) : vget ([] : List (Bytes × V)) k = none := rfl

theorem vget_cons (e : Bytes × V) (l : List (Bytes × V)) (k : Bytes) :
    vget (e :: l) k = if e.1 = k then some e.2 else vget l k := Assoc.get_cons e l k

theorem vget_eq_none_iff (l : List (Bytes × V)) (k : Bytes) : vget l k = none ↔ ∀ e ∈ l, e.1 ≠ k :=
  Assoc.get_eq_none_iff l k

theorem any_eq_vget_isSome (l : List (Bytes × V)) (k : Bytes) : l.any (·.1 == k) = (vget l k).isSome :=
  Assoc.any_eq_get_isSome l k

theorem vget_vset (l : List (Bytes × V)) (k k' : Bytes) (v : V) :
    vget (vset l k v) k' = if k' = k then some v else vget l k' := Assoc.get_set l k k' v

theorem vget_vdel (l : List (Bytes × V)) (k k' : Bytes) :
    vget (vdel l k) k' = if k' = k then none else vget l k' := Assoc.get_del l k k'

theorem vget_vput (l : List (Bytes × V)) (k k' : Bytes) (a : Option V) :
    vget (vput l k a) k' = if k' = k then a else vget l k' := by
  cases a <;> simp [vput, vget_vset, vget_vdel]

theorem nodup_vput (l : List (Bytes × V)) (k : Bytes) (a : Option V) (hd : (l.map (·.1)).Nodup) :
    ((vput l k a).map (·.1)).Nodup := by
  cases a
  · exact Assoc.nodup_del l k hd
  · exact Assoc.nodup_set l k _ hd

theorem mem_iff_vget (l : List (Bytes × V)) (hd : (l.map (·.1)).Nodup) (id : Bytes) (v : V) :
    (id, v) ∈ l ↔ vget l id = some v := Assoc.mem_iff_get hd id v

end GoRes.Index
