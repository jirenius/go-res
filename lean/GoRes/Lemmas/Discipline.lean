import GoRes.Model.Discipline
/-! What more than one property reads off `Generated.sourceOrder`, the order of the statements of `serve`, `subscribe` and
`Shutdown` as the extractor finds it in /repo's source on every run: C03 states the two facts for the restart, C16 their
conjunction for the absence of races.  Each is one sweep of the kernel over the table. -/
namespace GoRes.Discipline

theorem serve_order :
    (Generated.sourceOrder.lookup "Service.serve").map serveOrderOk = some true ∧
    (Generated.sourceOrder.lookup "Service.subscribe").map subscribeOrderOk = some true := by
  decide +kernel

theorem shutdown_order :
    (Generated.sourceOrder.lookup "Service.Shutdown").map shutdownOrderOk = some true := by
  decide +kernel

end GoRes.Discipline
