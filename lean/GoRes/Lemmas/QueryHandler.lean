import GoRes.Model.QueryHandler
import GoRes.Lemmas.ByteOrder
/-! The events the handler publishes turn what a client holds into what a fresh get serves
(`events_coherent`, C14).  For collections the transformers map the result events one by one, and
applying commutes with the map (`coll_fold`).  For models everything is read on keys: a model is
the image of its ascending key list (`skeys`, `ment`), the one change event the image of a list of
actions (`chStep`, `cent`), so it is enough that the two key lists have the same members
(`sorted_ext`); and they have, since event by event the change list so far, applied to the keys the
client holds, has the members of the result so far (`mem_model_keys`). -/
namespace GoRes.QueryHandler
open GoRes.Index

theorem map_insertIdx {α β : Type} (f : α → β) (l : List α) (i : Nat) (a : α) :
    (l.insertIdx i a).map f = (l.map f).insertIdx i (f a) := by
  induction l generalizing i with
  | nil => cases i <;> simp
  | cons x r ih => cases i <;> simp [ih]

theorem map_eraseIdx {α β : Type} (f : α → β) (l : List α) (i : Nat) :
    (l.eraseIdx i).map f = (l.map f).eraseIdx i := by
  induction l generalizing i with
  | nil => simp
  | cons x r ih => cases i <;> simp [ih]

/-! ## collections (`.none`, `.coll`) -/

/-- the client event a collection transformer makes of a result event -/
def collEv (f : Bytes → Bytes) : REv → CEv
  | .add id i => .add (f id) i
  | .remove _ i => .remove i

theorem coll_fold (f : Bytes → Bytes) (evs : List REv) (l : List Bytes) :
    (evs.map (collEv f)).foldl applyCEv (.coll (l.map f)) = .coll ((evs.foldl applyREv l).map f) := by
  rw [List.foldl_map]
  refine List.foldl_hom (fun l : List Bytes => Content.coll (l.map f)) fun l e => ?_
  cases e <;> simp only [collEv, applyCEv, applyREv, map_insertIdx, map_eraseIdx]

theorem transformEvents_none (t : RidOf) (evs : List REv) :
    transformEvents .none t evs = evs.map (collEv id) := by
  unfold transformEvents
  apply List.map_congr_left
  intro e _
  cases e <;> rfl

theorem transformEvents_coll (t : RidOf) (evs : List REv) :
    transformEvents .coll t evs = evs.map (collEv (ref t)) := by
  unfold transformEvents
  apply List.map_congr_left
  intro e _
  cases e <;> rfl

/-! ## models -/

/-- the model entry of an id -/
def ment (t : RidOf) (k : Bytes) : Bytes × Bytes := (k, ref t k)

/-- the change-event entry of an action on an id (`true` = add) -/
def cent (t : RidOf) (a : Bytes × Bool) : Bytes × Option Bytes := (a.1, if a.2 then some (ref t a.1) else none)

theorem minsert_map (t : RidOf) (k : Bytes) (l : List Bytes) :
    minsert k (ref t k) (l.map (ment t)) = (kinsert k l).map (ment t) := by
  fun_induction kinsert k l <;> simp [minsert, ment, *]

theorem mdelete_map (t : RidOf) (k : Bytes) (l : List Bytes) :
    mdelete k (l.map (ment t)) = (l.filter (· != k)).map (ment t) := by
  unfold mdelete
  rw [List.filter_map]
  rfl

/-- the sorted keys of a result -/
def skeys (ids : List Bytes) (init : List Bytes) : List Bytes := ids.foldl (fun l id => kinsert id l) init

theorem transformResult_model (t : RidOf) (ids : List Bytes) :
    transformResult .model t ids = .model ((skeys ids []).map (ment t)) :=
  congrArg Content.model (List.foldl_hom (init := []) (List.map (ment t)) fun l id => minsert_map t id l)

def actOf : REv → Bytes × Bool
  | .add id _ => (id, true)
  | .remove id _ => (id, false)

/-- the change list on actions: a later action on an id replaces the earlier one -/
def chStep (m : List (Bytes × Bool)) (e : REv) : List (Bytes × Bool) :=
  m.filter (·.1 != (actOf e).1) ++ [actOf e]

theorem transformEvents_model (t : RidOf) (evs : List REv) (he : evs ≠ []) :
    transformEvents .model t evs = [.change ((evs.foldl chStep []).map (cent t))] := by
  unfold transformEvents
  have h : evs.isEmpty = false := by
    cases evs with
    | nil => exact absurd rfl he
    | cons _ _ => rfl
  simp only [h]
  refine congrArg (fun x => [CEv.change x]) ?_
  refine List.foldl_hom (init := []) (List.map (cent t)) fun m e => ?_
  cases e <;>
    (simp only [chStep, actOf, List.map_append, List.filter_map, List.map_cons, List.map_nil, cent]; rfl)

/-- the client's change step on keys -/
def kapply (l : List Bytes) (a : Bytes × Bool) : List Bytes :=
  if a.2 then kinsert a.1 l else l.filter (· != a.1)

theorem applyCEv_change (t : RidOf) (acts : List (Bytes × Bool)) (l : List Bytes) :
    applyCEv (.model (l.map (ment t))) (.change (acts.map (cent t)))
      = .model ((acts.foldl kapply l).map (ment t)) := by
  simp only [applyCEv]
  refine congrArg Content.model ?_
  rw [List.foldl_map]
  refine List.foldl_hom (List.map (ment t)) fun l a => ?_
  obtain ⟨k, b⟩ := a
  cases b with
  | true =>
    simp only [cent, kapply, if_true]
    exact minsert_map t k l
  | false =>
    simp only [cent, kapply, Bool.false_eq_true, if_false]
    exact mdelete_map t k l

/-! ### sortedness and members of the key lists -/

theorem skeys_sorted (ids l : List Bytes) (h : Asc l) : Asc (skeys ids l) :=
  List.foldlRecOn ids _ h fun l hl id _ => kinsert_sorted id l hl

theorem mem_skeys (ids l : List Bytes) (x : Bytes) : x ∈ skeys ids l ↔ x ∈ ids ∨ x ∈ l := by
  induction ids generalizing l with
  | nil => simp [skeys]
  | cons y r ih =>
    rw [show skeys (y :: r) l = skeys r (kinsert y l) from rfl, ih, mem_kinsert, List.mem_cons, or_assoc]
    exact or_left_comm

theorem kapply_sorted (a : Bytes × Bool) (l : List Bytes) (h : Asc l) : Asc (kapply l a) := by
  unfold kapply
  split
  · exact kinsert_sorted _ _ h
  · exact h.filter _

theorem kapply_fold_sorted (acts : List (Bytes × Bool)) (l : List Bytes) (h : Asc l) :
    Asc (acts.foldl kapply l) :=
  List.foldlRecOn acts _ h fun l hl a _ => kapply_sorted a l hl

theorem mem_kapply (a : Bytes × Bool) (l : List Bytes) (x : Bytes) :
    x ∈ kapply l a ↔ if a.2 = true then x = a.1 ∨ x ∈ l else x ∈ l ∧ x ≠ a.1 := by
  unfold kapply
  split
  · rw [mem_kinsert]
  · simp [List.mem_filter]

/-! ### the change list, applied by the client, follows the result events -/

/-- whether `x` is a member afterwards is not decided by the actions on another id `k`: dropping
them from the change list (as a later action on `k` does) leaves it as it is -/
theorem mem_fold_filter {x k : Bytes} (h : k ≠ x) (m : List (Bytes × Bool)) {l l' : List Bytes}
    (hl : x ∈ l ↔ x ∈ l') : x ∈ (m.filter (·.1 != k)).foldl kapply l ↔ x ∈ m.foldl kapply l' := by
  induction m generalizing l l' with
  | nil => exact hl
  | cons a r ih =>
    rw [List.filter_cons, List.foldl_cons]
    split
    · exact ih (by rw [mem_kapply, mem_kapply, hl])
    · next ha =>
      obtain rfl : a.1 = k := by simpa using ha
      refine ih ?_
      rw [mem_kapply, hl]
      split <;> simp [Ne.symm h]

theorem mem_eraseIdx_nodup (l : List Bytes) (i : Nat) (id x : Bytes) (hn : l.Nodup) (hi : l[i]? = some id) :
    x ∈ l.eraseIdx i ↔ x ∈ l ∧ x ≠ id := by
  obtain ⟨hlt, rfl⟩ := List.getElem?_eq_some_iff.1 hi
  rw [← List.erase_eq_eraseIdx_of_idxOf (hn.idxOf_getElem i hlt), hn.mem_erase_iff, and_comm]

/-- at every step the change list so far `m`, applied to the keys `K` the client holds, has the
members of the result so far `cur` -/
theorem mem_model_keys (evs : List REv) (K : List Bytes) (x : Bytes) (m : List (Bytes × Bool)) (cur : List Bytes)
    (hn : cur.Nodup) (hwf : wfEvents cur evs = true) (h : x ∈ m.foldl kapply K ↔ x ∈ cur) :
    x ∈ (evs.foldl chStep m).foldl kapply K ↔ x ∈ evs.foldl applyREv cur := by
  induction evs generalizing m cur with
  | nil => exact h
  | cons e r ih =>
    rw [List.foldl_cons, List.foldl_cons]
    -- the action of `e` decides for its own id; for another id the earlier actions on it do, as before
    have hstep : x ∈ (chStep m e).foldl kapply K ↔
        if (actOf e).2 = true then x = (actOf e).1 ∨ x ∈ cur else x ∈ cur ∧ x ≠ (actOf e).1 := by
      rw [chStep, List.foldl_append, List.foldl_cons, List.foldl_nil, mem_kapply]
      by_cases hx : (actOf e).1 = x
      · split <;> simp [hx]
      · rw [mem_fold_filter hx m Iff.rfl, h]
    cases e with
    | add id i =>
      simp only [wfEvents, Bool.and_eq_true, decide_eq_true_eq, Bool.not_eq_true',
        List.contains_eq_mem, decide_eq_false_iff_not] at hwf
      obtain ⟨⟨hi, hid⟩, hwf⟩ := hwf
      exact ih _ _ ((List.perm_insertIdx id cur hi).nodup_iff.2 (List.nodup_cons.2 ⟨hid, hn⟩)) hwf
        (hstep.trans (List.mem_insertIdx hi).symm)
    | remove id i =>
      simp only [wfEvents, Bool.and_eq_true, beq_iff_eq] at hwf
      exact ih _ _ (hn.eraseIdx i) hwf.2 (hstep.trans (mem_eraseIdx_nodup cur i id x hn hwf.1).symm)

theorem model_keys (evs : List REv) (old : List Bytes) (hn : old.Nodup) (hwf : wfEvents old evs = true) :
    (evs.foldl chStep []).foldl kapply (skeys old []) = skeys (evs.foldl applyREv old) [] := by
  refine sorted_ext (kapply_fold_sorted _ _ (skeys_sorted _ _ .nil)) (skeys_sorted _ _ .nil) fun x => ?_
  rw [mem_model_keys evs _ x [] old hn hwf (by simp [mem_skeys]), mem_skeys]
  simp

theorem events_coherent (tr : Trans) (t : RidOf) (evs : List REv) (old : List Bytes)
    (hn : old.Nodup) (hwf : wfEvents old evs = true) :
    (transformEvents tr t evs).foldl applyCEv (transformResult tr t old)
      = transformResult tr t (evs.foldl applyREv old) := by
  cases tr with
  | none =>
    rw [transformEvents_none]
    have := coll_fold id evs old
    simpa [transformResult] using this
  | coll =>
    rw [transformEvents_coll]
    exact coll_fold (ref t) evs old
  | model =>
    rw [transformResult_model, transformResult_model]
    by_cases he : evs = []
    · subst he
      rfl
    · rw [transformEvents_model t evs he]
      simp only [List.foldl_cons, List.foldl_nil]
      rw [applyCEv_change, model_keys evs old hn hwf]

/-- an ordinary resource hears nothing where a query request is answered with no events; otherwise
its client ends up with the same content -/
theorem clientApply_resourceEvent (tr : Trans) (t : RidOf) (a : Answer) (held fresh : Content) :
    clientApply held (resourceEvent tr t a fresh) = clientApply held (queryRequest tr t a fresh) := by
  unfold resourceEvent queryRequest
  split
  · rfl
  · split
    · next he => rw [List.isEmpty_iff.1 he]; cases tr <;> rfl
    · rfl

end GoRes.QueryHandler
