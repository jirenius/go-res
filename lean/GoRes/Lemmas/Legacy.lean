import GoRes.Model.Legacy
import GoRes.Lemmas.Assoc
/-! `applyChange` is followed one property at a time (`applyChange_cons`, through `step`).  When the
event names each key once, the new model and the `rev` map are read off the event
(`mget_applyChange`, `mem_applyChange_rev`).  A proof about a change event starts from `apply_change`
(`apply` on a served model in terms of `applyChange`), one about every kind of event from
`apply_published_or_inert` (each branch of `apply` publishes or leaves the stored value alone). -/
namespace GoRes.Legacy

theorem mget_mset (m : List (Str × Str)) (k v k' : Str) :
    mget (mset m k v) k' = if k' = k then some v else mget m k' := Assoc.get_set m k k' v

theorem mget_mdel (m : List (Str × Str)) (k k' : Str) :
    mget (mdel m k) k' = if k' = k then none else mget m k' := Assoc.get_del m k k'

/-- one property of a change event applied to the model: the new model and what goes into `rev` -/
def step (m : List (Str × Str)) (k : Str) (v : Option Str) : List (Str × Str) × List (Str × Option Str) :=
  if v = mget m k then (m, [])
  else (match v with | some x => mset m k x | none => mdel m k, [(k, mget m k)])

theorem applyChange_nil (m : List (Str × Str)) : applyChange m [] = (m, []) := rfl

theorem applyChange_cons (m : List (Str × Str)) (k : Str) (v : Option Str) (rest : List (Str × Option Str)) :
    applyChange m ((k, v) :: rest) =
      ((applyChange (step m k v).1 rest).1, (step m k v).2 ++ (applyChange (step m k v).1 rest).2) := by
  unfold step
  cases v <;> cases h : mget m k <;> simp [applyChange, h]

theorem mget_step (m : List (Str × Str)) (k : Str) (v : Option Str) (k' : Str) :
    mget (step m k v).1 k' = if k' = k then v else mget m k' := by
  unfold step
  split
  · next h => split <;> simp [*]
  · cases v
    · exact mget_mdel ..
    · exact mget_mset ..

theorem mem_step_rev {m : List (Str × Str)} {k : Str} {v : Option Str} {k' : Str} {ov : Option Str}
    (h : (k', ov) ∈ (step m k v).2) : k' = k ∧ ov = mget m k ∧ v ≠ mget m k := by
  unfold step at h
  split at h
  · cases h
  · next hv => simp at h; exact ⟨h.1, h.2, hv⟩

theorem step_same (m : List (Str × Str)) (k : Str) (v : Option Str) (h : v = mget m k) :
    step m k v = (m, []) := if_pos h

theorem mget_applyChange (props : List (Str × Option Str)) (m : List (Str × Str))
    (hk : (props.map (·.1)).Nodup) (k : Str) :
    mget (applyChange m props).1 k = (Assoc.get props k).getD (mget m k) := by
  induction props generalizing m with
  | nil => rfl
  | cons p rest ih =>
    obtain ⟨k0, v0⟩ := p
    rw [List.map_cons, List.nodup_cons] at hk
    rw [applyChange_cons, Assoc.get_cons]
    show mget (applyChange (step m k0 v0).1 rest).1 k = _
    rw [ih _ hk.2, mget_step]
    by_cases h : k0 = k
    · subst h
      rw [if_pos rfl, if_pos rfl,
        (Assoc.get_eq_none_iff rest k0).2 fun e he hek => hk.1 (hek ▸ List.mem_map_of_mem (f := (·.1)) he)]
      rfl
    · rw [if_neg h, if_neg (Ne.symm h)]

theorem mem_applyChange_rev {props : List (Str × Option Str)} {m : List (Str × Str)}
    (hk : (props.map (·.1)).Nodup) {k : Str} {ov : Option Str} (h : (k, ov) ∈ (applyChange m props).2) :
    ov = mget m k ∧ ∃ v, (k, v) ∈ props ∧ v ≠ mget m k := by
  induction props generalizing m with
  | nil => simp [applyChange_nil] at h
  | cons p rest ih =>
    obtain ⟨k0, v0⟩ := p
    rw [List.map_cons, List.nodup_cons] at hk
    rw [applyChange_cons] at h
    rcases List.mem_append.1 h with h | h
    · obtain ⟨h1, h2, h3⟩ := mem_step_rev h
      subst h1
      exact ⟨h2, v0, List.mem_cons_self, h3⟩
    · obtain ⟨h1, v, hv, hne⟩ := ih hk.2 h
      have hkk : k ≠ k0 := fun hh => hk.1 (hh ▸ List.mem_map_of_mem (f := (·.1)) hv)
      rw [mget_step, if_neg hkk] at h1 hne
      exact ⟨h1, v, List.mem_cons_of_mem _ hv, hne⟩

theorem applyChange_same (props : List (Str × Option Str)) (m : List (Str × Str))
    (h : ∀ kv ∈ props, kv.2 = mget m kv.1) : applyChange m props = (m, []) := by
  induction props with
  | nil => rfl
  | cons p rest ih =>
    obtain ⟨k0, v0⟩ := p
    rw [applyChange_cons, step_same m k0 v0 (h _ List.mem_cons_self)]
    rw [ih (fun kv hkv => h kv (List.mem_cons_of_mem _ hkv))]
    rfl

theorem apply_published_or_inert (cfg : Cfg) (s : Option LVal) (e : Ev) :
    (apply cfg s e).2.published = true ∧ (apply cfg s e).2.failed = false ∨
      (apply cfg s e).2.published = false ∧ (apply cfg s e).1 = s := by
  fun_cases apply cfg s e <;> simp [failure, nothing]

/-- the two silent branches of `apply` (no property given, none changed) differ in the `applied`
flag only -/
theorem apply_change {cfg : Cfg} {s : Option LVal} {m : List (Str × Str)} (hm : cfg.isModel = true)
    (hs : served cfg s = some (.model m)) (props : List (Str × Option Str)) :
    apply cfg s (.change props) =
      if (applyChange m props).2.isEmpty then (s, { nothing with applied := !props.isEmpty })
      else (some (.model (applyChange m props).1), ⟨true, true, false, (applyChange m props).2, none⟩) := by
  cases props with
  | nil => simp [apply, hm, applyChange_nil, nothing]
  | cons p ps => simp [apply, hm, hs]

end GoRes.Legacy
