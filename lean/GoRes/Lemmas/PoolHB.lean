import GoRes.Lemmas.Pool
/-! Happens-before between the callbacks of one group of the worker-pool model (C16): every started callback of a group has
finished, except the one running now, which is the most recent one.  `runL` lists what the workers are running; `HB g` says the
above of group `g`, and is kept when a worker that runs nothing of `g` changes state (`HB.start`) and when a callback ends
(`HB.done`); `InvHB` is `HB` of every group together with the bookkeeping of `finished`, proved along `Inv`
(`InvHB.reachable`).  A new result starts from `(InvHB.reachable h).hb g hg` and `Inv.reachable h`; with unique callback ids,
from `InvHB.once`. -/
namespace GoRes.Pool

/-! ## `runL`: the callbacks running in a list of workers, each with its group -/

def runL (l : List WState) : List (Nat × Nat) := l.flatMap startedOf

theorem runningNow_eq (s : St) : runningNow s = runL s.workers := rfl

@[simp] theorem runL_nil : runL [] = [] := rfl
@[simp] theorem runL_cons (w : WState) (l : List WState) : runL (w :: l) = startedOf w ++ runL l := by
  simp [runL]
@[simp] theorem runL_append (a b : List WState) : runL (a ++ b) = runL a ++ runL b := by
  simp [runL]

theorem length_cbsOf_runL (g : Nat) (l : List WState) : (cbsOf g (runL l)).length = cntW g l := by
  rw [← countP_startedOf, cbsOf, List.length_map, List.countP_eq_length_filter]; rfl

theorem cbsOf_runL_of_cnt {g : Nat} {l : List WState} (h : cntW g l = 0) : cbsOf g (runL l) = [] :=
  List.eq_nil_of_length_eq_zero (length_cbsOf_runL g l ▸ h)

theorem cbsOf_runL_running {g : Nat} {l : List WState} {i : Nat} {w : Work} {cb : Nat}
    (hi : l[i]? = some (.running w cb)) (hw : w.wid = g) (hle : cntW g l ≤ 1) : cbsOf g (runL l) = [cb] := by
  obtain ⟨A, B, hl, _⟩ := set_split hi
  subst hl
  obtain ⟨hA, hB⟩ := cntW_beside (x := .running w cb) (congrArg some hw) hle
  simp [cbsOf_runL_of_cnt hA, cbsOf_runL_of_cnt hB, startedOf, cbsOf_cons, hw]

theorem runL_set_of_nil {l : List WState} {i : Nat} {old x : WState} (h : l[i]? = some old)
    (ho : startedOf old = []) (hx : startedOf x = []) : runL (l.set i x) = runL l :=
  flatMap_set_of_nil h ho hx

theorem countP_runL_set {l : List WState} {i : Nat} {old : WState} (h : l[i]? = some old)
    (p : Nat × Nat → Bool) (x : WState) :
    (runL (l.set i x)).countP p + (startedOf old).countP p = (runL l).countP p + (startedOf x).countP p :=
  countP_flatMap_set h p x

theorem mem_runL_set {l : List WState} {i : Nat} {x : WState} {p : Nat × Nat} (h : p ∈ runL (l.set i x)) :
    p ∈ startedOf x ∨ p ∈ runL l := by
  simp only [runL, List.mem_flatMap] at h ⊢
  obtain ⟨ws, hws, hp⟩ := h
  rcases List.mem_or_eq_of_mem_set hws with hws | rfl
  · exact Or.inr ⟨ws, hws, hp⟩
  · exact Or.inl hp

theorem mem_runL_of_getElem? {l : List WState} {i : Nat} {w : Work} {cb : Nat}
    (h : l[i]? = some (.running w cb)) : (w.wid, cb) ∈ runL l := by
  simp only [runL, List.mem_flatMap]
  exact ⟨_, List.mem_of_getElem? h, by simp [startedOf]⟩

@[simp] theorem startedOf_appendWS (wid cb : Nat) (w : WState) : startedOf (appendWS wid cb w) = startedOf w := by
  cases w <;> simp [appendWS, startedOf]

@[simp] theorem startedOf_bcast (w : WState) : startedOf (bcast w) = startedOf w := by cases w <;> rfl

@[simp] theorem runL_map_appendWS (wid cb : Nat) (l : List WState) : runL (l.map (appendWS wid cb)) = runL l := by
  simp [runL, List.flatMap_map]

@[simp] theorem runL_map_bcast (l : List WState) : runL (l.map bcast) = runL l := by
  simp [runL, List.flatMap_map]

@[simp] theorem runL_replicate_idle (n : Nat) : runL (List.replicate n .idle) = [] := by
  simp [runL, List.flatMap_replicate, startedOf]

/-! ## the happens-before invariant of one group -/

/-- the started callbacks of group `g` are finished ones followed by the running one (if any) -/
def HB (g : Nat) (st : List (Nat × Nat)) (fin : List Nat) (ws : List WState) : Prop :=
  ∃ pre, cbsOf g st = pre ++ cbsOf g (runL ws) ∧ ∀ c ∈ pre, c ∈ fin

theorem HB.start {g : Nat} {st : List (Nat × Nat)} {fin : List Nat} {ws : List WState} (h : HB g st fin ws)
    {i : Nat} {old : WState} (hi : ws[i]? = some old) (ho : cbsOf g (startedOf old) = []) (x : WState)
    (hle : cntW g (ws.set i x) ≤ 1) : HB g (st ++ startedOf x) fin (ws.set i x) := by
  obtain ⟨pre, h1, h2⟩ := h
  obtain ⟨A, B, hl, hset⟩ := set_split hi
  rw [hset x] at hle ⊢
  subst hl
  refine ⟨pre, ?_, h2⟩
  simp only [cbsOf_append, runL_append, runL_cons, ho, List.nil_append] at h1 ⊢
  by_cases hg : wsWid x = some g
  · obtain ⟨hA, hB⟩ := cntW_beside hg hle
    simp [h1, cbsOf_runL_of_cnt hA, cbsOf_runL_of_cnt hB]
  · simp [h1, cbsOf_startedOf_of_ne hg]

theorem HB.done {g : Nat} {st : List (Nat × Nat)} {fin : List Nat} {ws : List WState} (h : HB g st fin ws)
    {i : Nat} {w : Work} {cb : Nat} (hi : ws[i]? = some (.running w cb)) (hle : cntW g ws ≤ 1) :
    HB g st (fin ++ [cb]) (ws.set i .idle) := by
  obtain ⟨pre, h1, h2⟩ := h
  obtain ⟨A, B, hl, hset⟩ := set_split hi
  rw [hset .idle]
  subst hl
  simp only [cbsOf_append, runL_append, runL_cons] at h1 ⊢
  by_cases hg : w.wid = g
  · obtain ⟨hA, hB⟩ := cntW_beside (x := .running w cb) (congrArg some hg) hle
    refine ⟨pre ++ [cb], ?_, fun c hc => ?_⟩
    · simpa [cbsOf_runL_of_cnt hA, cbsOf_runL_of_cnt hB, startedOf, cbsOf_single, hg] using h1
    · rcases List.mem_append.mp hc with hc | hc
      · exact List.mem_append_left _ (h2 c hc)
      · exact List.mem_append_right _ hc
  · refine ⟨pre, ?_, fun c hc => List.mem_append_left _ (h2 c hc)⟩
    simpa [startedOf, cbsOf_single, hg] using h1

/-! ## the invariant of the pool: `HB` of every group, and what `finished` holds -/

structure InvHB (s : St) : Prop where
  hb : ∀ g, g ≠ 0 → HB g s.started s.finished s.workers
  fin : ∀ c ∈ s.finished, c ∈ s.started.map (·.2)
  ran : ∀ x ∈ runL s.workers, x ∈ s.started
  /-- with multiplicity: a started callback is finished or running, never both -/
  cnt : ∀ p : Nat → Bool,
    s.finished.countP p + (runL s.workers).countP (fun x => p x.2) = s.started.countP (fun x => p x.2)

theorem InvHB.init : InvHB init :=
  ⟨fun _ _ => ⟨[], rfl, fun _ h => (by cases h)⟩, fun _ h => (by simp [Pool.init] at h),
    fun _ h => (by simp [Pool.init] at h), fun _ => (by simp [Pool.init])⟩

theorem InvHB.of_same {s s' : St} (h : InvHB s) (h1 : s'.started = s.started) (h2 : s'.finished = s.finished)
    (h3 : runL s'.workers = runL s.workers) : InvHB s' := by
  refine ⟨fun g hg => (by unfold HB; rw [h1, h2, h3]; exact h.hb g hg), ?_, ?_, ?_⟩
  · rw [h1, h2]; exact h.fin
  · rw [h1, h3]; exact h.ran
  · rw [h1, h2, h3]; exact h.cnt

theorem InvHB.setWorker {s : St} {i : Nat} {x : WState} {wq : Option (List Work)} {rw : List Nat}
    (hI' : Inv (setWorker s i x wq rw)) (h : InvHB s) {old : WState} (hi : s.workers[i]? = some old)
    (ho : startedOf old = []) : InvHB (setWorker s i x wq rw) := by
  refine ⟨fun g hg => ?_, fun c hc => ?_, fun p hp => ?_, fun p => ?_⟩
  · have hle := hI'.le g hg
    simp only [setWorker_workers] at hle
    exact (h.hb g hg).start hi (by simp [ho]) x (by omega)
  · simp only [setWorker_started, setWorker_finished, List.map_append, List.mem_append] at hc ⊢
    exact Or.inl (h.fin c hc)
  · simp only [setWorker_started, setWorker_workers, List.mem_append] at hp ⊢
    rcases mem_runL_set hp with hp | hp
    · exact Or.inr hp
    · exact Or.inl (h.ran p hp)
  · have h1 := h.cnt p
    have h2 := countP_runL_set hi (fun x => p x.2) x
    simp only [ho, List.countP_nil] at h2
    simp only [setWorker_started, setWorker_finished, setWorker_workers, List.countP_append]
    omega

theorem InvHB.finish {s : St} (hI : Inv s) (h : InvHB s) {i : Nat} {w : Work} {cb : Nat}
    (hi : s.workers[i]? = some (.running w cb)) : InvHB (finish s i w cb) := by
  refine ⟨fun g hg => ?_, fun c hc => ?_, fun p hp => ?_, fun p => ?_⟩
  · have hle := hI.le g hg
    exact (h.hb g hg).done hi (by omega)
  · simp only [Pool.finish, List.mem_append, List.mem_singleton] at hc
    rcases hc with hc | rfl
    · exact h.fin c hc
    · exact List.mem_map.mpr ⟨_, h.ran _ (mem_runL_of_getElem? hi), rfl⟩
  · simp only [Pool.finish] at hp
    rcases mem_runL_set hp with hp | hp
    · simp [startedOf] at hp
    · exact h.ran p hp
  · have h1 := h.cnt p
    have h2 := countP_runL_set hi (fun x => p x.2) .idle
    simp only [startedOf, List.countP_cons, List.countP_nil] at h2
    simp only [Pool.finish, List.countP_append, List.countP_cons, List.countP_nil]
    omega

theorem InvHB.step {s s' : St} {a : Act} (hI : Inv s) (h : InvHB s) (hs : Step s a s') : InvHB s' := by
  have hI' : Inv s' := hI.step hs
  cases hs with
  | serve n _ hw => exact h.of_same rfl rfl ((runL_replicate_idle n).trans (flatMap_of_all_exited rfl hw).symm)
  | checkFail => exact h
  | checkPass | lockClosed | signalNone | shutdownCas | closeLock | shutdownDone | lockNew =>
    exact h.of_same rfl rfl rfl
  | lockAppend => exact h.of_same rfl rfl (by simp [subAppend])
  | signalSome _ hi => exact h.of_same rfl rfl (runL_set_of_nil (waiter_of_find hi) rfl rfl)
  | wStart _ hi | wWake _ hi | wSpurious _ hi => exact h.setWorker hI' hi rfl
  | doneNext i hi hp =>
    rw [next_eq] at hI' ⊢
    exact (h.finish hI hi).setWorker hI' (finish_getElem? hi) rfl
  | doneLast i hi hp => exact (h.finish hI hi).setWorker hI' (finish_getElem? hi) rfl
  | closeBroadcast => exact h.of_same rfl rfl (by rw [broadcast_eq]; simp)

theorem InvHB.reachable {acts : List Act} {s : St} (hr : Pool.run Pool.init acts = some s) : InvHB s :=
  (run_induction (A := fun _ => True) (P := fun s => Inv s ∧ InvHB s)
    (fun _ h hs => ⟨h.1.step hs, h.2.step h.1 hs⟩) (fun _ _ => trivial) ⟨Inv.init, InvHB.init⟩ hr).2

theorem InvHB.once {s : St} (hI : Inv s) (h : InvHB s) (hd : (s.accepted.map (·.2)).Nodup) (c : Nat) :
    s.finished.count c + (runL s.workers).countP (·.2 == c) ≤ 1 := by
  have h1 := List.nodup_iff_count.mp (started_nodup hI hd) c
  have h2 := h.cnt (· == c)
  simp only [List.count_eq_countP, List.countP_map, Function.comp_def] at h1 ⊢
  omega

end GoRes.Pool
