import GoRes.Model.Req
import GoRes.Lemmas.Req
import GoRes.Model.Json
import GoRes.Generated.Facts
import GoRes.Model.SvcApi
import GoRes.Lemmas.SvcApi
/-! # C07 — everything the service publishes is protocol-conformant

Conformance is stated on the structure of what `process` publishes: every message is built
by one of the documented constructors, on a documented subject.  That the rendered text is
the JSON it looks like is checked on the implementation side by the driver's JSON-level
judge (`Driver/Req.lean`, `conformant`) on every message the real service publishes. -/
namespace GoRes.Props.C07
open GoRes GoRes.Req

/-- a response payload: exactly one of result / resource / error (an error has a code and a
message), plus an optional rendered meta object -/
inductive IsResponse (allowMeta : Bool) : Str → Prop
  | result (v : Str) (m : Option Str) : (m.isSome → allowMeta = true) → IsResponse allowMeta (withMeta [(b!"result", v)] m)
  | resource (rid : Str) (m : Option Str) : (m.isSome → allowMeta = true) → isValidRIDB rid = true →
      IsResponse allowMeta (withMeta [(b!"resource", refObj rid)] m)
  | error (c msg : Str) (m : Option Str) : (m.isSome → allowMeta = true) → IsResponse allowMeta (withMeta [(b!"error", errObj c msg)] m)

/-- a pre-response: `timeout:"<ms>"` with a non-negative number -/
def IsPreResponse (p : Str) : Prop := ∃ ms : Int, 0 ≤ ms ∧ p = b!"timeout:\"" ++ intText ms ++ [34]

/-- a documented message for request `r` -/
def Conformant (r : ReqIn) : Eff → Prop
  | .pub subj payload =>
    (subj = replySubj ∧ (IsPreResponse payload ∨ IsResponse (r.isHTTP && r.payload == .ok) payload)) ∨
    (∃ name, subj = evSubj r name ∧ (name ∈ [b!"change", b!"add", b!"remove", b!"create", b!"delete", b!"reaccess"] ∨
        (isValidPartB name = true ∧ name ∉ reserved))) ∨
    (subj = b!"conn." ++ r.cid ++ b!".token")
  | _ => True

theorem respShape_isResponse {allow : Bool} {m0 : Option Str} {p : Str} (h : RespShape m0 p)
    (hm : m0.isSome → allow = true) : IsResponse allow p := by
  have key {m : Option Str} : (m = none ∨ m = m0) → m.isSome → allow = true := by
    rintro (rfl | rfl)
    · exact nofun
    · exact hm
  cases h with
  | result v m hm' => exact .result v m (key hm')
  | resource rid m hm' hv => exact .resource rid m (key hm') hv
  | error c msg m hm' => exact .error c msg m (key hm')

theorem aux_conformant {r : ReqIn} {e : Eff} (h : Aux r e) : Conformant r e := by
  cases h with
  | apply k => trivial
  | listener i n => trivial
  | ev name payload hn => exact Or.inr (Or.inl ⟨name, rfl, hn⟩)
  | tok payload => exact Or.inr (Or.inr rfl)
  | pre ms hms => exact Or.inl ⟨rfl, Or.inl ⟨ms, hms, rfl⟩⟩

theorem log_conformant {r : ReqIn} {b : Bool} {l : List Eff} (h : Log r b l) : ∀ e ∈ l, Conformant r e := by
  induction h with
  | nil => nofun
  | seen d => exact List.forall_mem_singleton.2 trivial
  | aux _ hes ih => exact List.forall_mem_append.2 ⟨ih, fun e he => aux_conformant (hes e he)⟩
  | reply _ hp hm ih =>
    refine List.forall_mem_append.2 ⟨ih, List.forall_mem_singleton.2 ?_⟩
    exact Or.inl ⟨rfl, Or.inr (respShape_isResponse hp fun h => by simp [hm h])⟩

/-- **everything published while processing a request is conformant** for the request as the
handler sees it (`normReq`: a request with an empty payload has all its fields at their zero
value, in particular an empty connection ID) -/
theorem all_conformant_norm (cfg : HCfg) (r : ReqIn) (script : List Action) :
    ∀ e ∈ process cfg r script, Conformant (normReq r) e := by
  rcases process_log cfg r script with ⟨_, he⟩ | ⟨_, hl⟩
  · simp [he]
  · exact log_conformant hl

theorem conformant_of_norm {r : ReqIn} {e : Eff} (hc : r.payload = .empty → r.cid = [])
    (h : Conformant (normReq r) e) : Conformant r e := by
  by_cases hp : r.payload = .empty
  · cases e with
    | pub subj payload =>
      have e1 : ((normReq r).isHTTP && (normReq r).payload == .ok) = (r.isHTTP && r.payload == .ok) := by
        simp [normReq, hp]
      have e2 : (normReq r).cid = r.cid := by simp [normReq, hp, hc hp]
      simpa only [Conformant, evSubj, e1, e2, normReq_rname] using h
    | apply k | listener i n | seen d => trivial
  · rwa [normReq_of_ne_empty r hp] at h

/-- **everything published while processing a request is conformant**, for every handler script.

STATEMENT REPAIRED: the hypothesis `hc` was added.  `ReqIn` lets `cid` and `payload` vary
independently, but a request with an empty payload has no connection ID (`process` zeroes the
field), so a token event is then published on `conn..token`; without `hc` the statement fails for
`payload := .empty, cid := [99]`, script `[.tokenEvent none]` (see `counterexample` below).
`all_conformant_norm` is the unconditional form. -/
theorem all_conformant (cfg : HCfg) (r : ReqIn) (script : List Action)
    (hc : r.payload = .empty → r.cid = []) :
    ∀ e ∈ process cfg r script, Conformant r e :=
  fun e he => conformant_of_norm hc (all_conformant_norm cfg r script e he)

/-- meta appears only on responses to requests flagged as HTTP -/
theorem meta_only_http (r : ReqIn) (s : St) (cfg : HCfg) (script : List Action) (h : r.isHTTP = false)
    (hs : s.mt.render = none) : (stepSt (runScript cfg r s script)).mt.render = none := by
  refine runScript_next cfg r (fun s' => s'.mt.render = none) ?_ script s hs
  intro s1 s2 hn h1
  rw [hn.meta_http h]; exact h1

/-- a handler-supplied value that cannot be marshalled produces a `system.internalError`
response, never a malformed or missing message -/
theorem unmarshalable_is_internal_error (cfg : HCfg) (r : ReqIn) (s : St) (hr : s.replied = false) (t q : Str) :
    (stepSt (act cfg r s (.ok (some ⟨false, t⟩)))).effs = s.effs ++ [.pub replySubj (respError codeInternal goErr none)] ∧
    (stepSt (act cfg r s (.model ⟨false, t⟩ q))).effs = s.effs ++ [.pub replySubj (respError codeInternal goErr none)] ∧
    (stepSt (act cfg r s (.collection ⟨false, t⟩ q))).effs = s.effs ++ [.pub replySubj (respError codeInternal goErr none)] :=
  ⟨reply_effs hr _, reply_effs hr _, reply_effs hr _⟩

/-- an unmarshalable event value publishes nothing (never a malformed event) -/
theorem unmarshalable_event_silent (s : St) (subj t : Str) : svcEvent s subj (some ⟨false, t⟩) = s := by
  simp [svcEvent]

/-- every event type carries its documented fields: change → `values` object, add → `idx` and
`value`, remove → `idx`, create/delete/reaccess → empty payload -/
theorem add_payload (cfg : HCfg) (r : ReqIn) (s : St) (v : Str) (idx : Int) (h1 : cfg.typ ≠ 1) (h2 : 0 ≤ idx)
    (h3 : cfg.applyAdd = .absent) :
    (stepSt (act cfg r s (.add ⟨true, v⟩ idx))).effs =
      s.effs ++ [.pub (evSubj r (b!"add")) (obj [(b!"idx", intText idx), (b!"value", v)])] ++ listenersOf cfg (b!"add") := by
  rw [act_add, if_neg h1, if_neg (by omega), h3, fired_of_ne_err (ap := .absent) nofun]
  simp [pubEffs]

theorem remove_payload (cfg : HCfg) (r : ReqIn) (s : St) (idx : Int) (h1 : cfg.typ ≠ 1) (h2 : 0 ≤ idx)
    (h3 : cfg.applyRemove = .absent) :
    (stepSt (act cfg r s (.remove idx))).effs =
      s.effs ++ [.pub (evSubj r (b!"remove")) (obj [(b!"idx", intText idx)])] ++ listenersOf cfg (b!"remove") := by
  rw [act_remove, if_neg h1, if_neg (by omega), h3, fired_of_ne_err (ap := .absent) nofun]
  simp [pubEffs]

theorem create_delete_payload (cfg : HCfg) (r : ReqIn) (s : St) (v : JV)
    (h3 : cfg.applyCreate = .absent) (h4 : cfg.applyDelete = .absent) :
    (stepSt (act cfg r s (.create v))).effs = s.effs ++ [.pub (evSubj r (b!"create")) []] ++ listenersOf cfg (b!"create") ∧
    (stepSt (act cfg r s .delete)).effs = s.effs ++ [.pub (evSubj r (b!"delete")) []] ++ listenersOf cfg (b!"delete") := by
  rw [act_create, act_delete, h3, h4, fired_of_ne_err (ap := .absent) nofun,
    fired_of_ne_err (ap := .absent) nofun]
  simp [pubEffs]

/-! ## the side condition of `all_conformant` is needed -/
def cfgCE : HCfg := ⟨true, false, false, [], [], 0, .absent, .absent, .absent, .absent, .absent, 0, []⟩
def reqCE : ReqIn := ⟨.access, [97], [], true, [], .empty, [99], false, none, none, []⟩

/-- without `hc`, `all_conformant` fails: an access request with an empty payload but `cid = "c"`
whose handler emits a token event, which goes to `conn..token` -/
theorem counterexample : ¬ ∀ e ∈ process cfgCE reqCE [.tokenEvent none], Conformant reqCE e := by
  intro h
  -- the log is what the handler saw, the token event, the missing-response error
  have hm : Eff.pub (b!"conn..token") (obj [(b!"token", b!"null")]) ∈ process cfgCE reqCE [.tokenEvent none] :=
    .tail _ (.head _)
  -- and `conn..token` is none of the three subjects allowed for `reqCE`
  rcases h _ hm with ⟨h, _⟩ | ⟨name, h, _⟩ | h <;> cases h

/-! ## facts regenerated from the source on every run (`Generated/Facts.lean`) -/

/-- a static response: a JSON object with exactly one of `result` / `error`, no other member, an
error having a non-empty string `code` and a string `message` -/
def staticOk (payload : Str) : Bool :=
  match Json.parse payload with
  | some (.obj ms) =>
    (match ms with
     | [(k, v)] =>
       if k = b!"result" then true
       else if k = b!"error" then
         (match v.get? "code", v.get? "message" with
          | some (.str c), some (.str _) => !c.isEmpty && v.keys.length = 2
          | _, _ => false)
       else false
     | _ => false)
  | _ => false

/-- **every static response in request.go is protocol-conformant** — re-proved against the byte
literals extracted from the current source -/
theorem static_conformant : ∀ r ∈ Generated.staticResponses, staticOk r.2 = true := by
  decide +kernel

/-- the error codes of errors.go are the ones the model (and the protocol) uses -/
theorem error_codes_match :
    Generated.errorCodes.lookup "CodeInternalError" = some codeInternal ∧
    Generated.errorCodes.lookup "CodeNotFound" = some codeNotFound ∧
    Generated.errorCodes.lookup "CodeMethodNotFound" = some codeMethodNotFound ∧
    Generated.errorCodes.lookup "CodeInvalidParams" = some codeInvalidParams ∧
    Generated.errorCodes.lookup "CodeInvalidQuery" = some codeInvalidQuery ∧
    Generated.errorCodes.lookup "CodeAccessDenied" = some codeAccessDenied := by
  decide +kernel

/-- the static responses the model answers with are the source's -/
theorem static_responses_match :
    Generated.staticResponses.lookup "responseMissingResponse" = some missingResponse ∧
    Generated.staticResponses.lookup "responseNotFound" = some (respError codeNotFound b!"Not found" none) ∧
    Generated.staticResponses.lookup "responseMethodNotFound" = some (respError codeMethodNotFound b!"Method not found" none) ∧
    Generated.staticResponses.lookup "responseInternalError" = some (respError codeInternal b!"Internal error" none) ∧
    Generated.staticResponses.lookup "responseSuccess" = some (respResult b!"null" none) := by
  decide +kernel



/-! ## publications made through the service API (`Model/SvcApi.lean`)

`With`/`Resource` on any *valid* resource id — with or without a query part, whatever follows
the `?` — then an event; `TokenReset`; `TokenEventWithID`. -/

open GoRes.SvcApi in
/-- every message published from a `With` callback is on a NATS subject one may publish on;
events are `event.<name>.<event>` for exactly the name part of the resource id, which is a
valid resource name (no `?`, no wildcard, no empty token), and a reset names exactly it -/
theorem with_publications_conformant (pats : List Str) (rid : Str) (act : Act) (l : List Pub)
    (hv : Pattern.isValidRID rid = true) (h : withOp pats rid act = .pubs l) :
    validName (parseRID rid).1 = true ∧
    ∀ p ∈ l, natsSubject p.subj = true ∧
      ((∃ name, p.subj = eventSubj (parseRID rid).1 name ∧ natsToken name = true) ∨
       (p.subj = b!"system.reset" ∧ p.payload = b!"{\"resources\":" ++ jsonList [(parseRID rid).1] ++ [125])) := by
  have hname : validName (parseRID rid).1 = true := by rw [← isValidRID_eq_validName]; exact hv
  refine ⟨hname, fun p hp => ?_⟩
  rcases withOp_pubs h with ⟨name, pl, rfl, hn⟩ | rfl <;> rw [List.mem_singleton.1 hp]
  · have hn' := natsToken_of_isValidPart hn
    exact ⟨natsSubject_eventSubj hname hn' (noDot_of_isValidPart hn), Or.inl ⟨name, rfl, hn'⟩⟩
  · exact ⟨show natsSubject b!"system.reset" = true by decide, Or.inr ⟨rfl, rfl⟩⟩

open GoRes.SvcApi in
/-- an event with a reserved or malformed name publishes nothing -/
theorem with_invalid_event_name_silent (pats : List Str) (rid name : Str)
    (hn : Req.reserved.contains name = true ∨ Req.isValidPartB name = false) :
    withOp pats rid (.custom name) = .err ∨ withOp pats rid (.custom name) = .panic := by
  have hc : (Req.reserved.contains name || !Req.isValidPartB name) = true := by
    rcases hn with h | h <;> rw [h] <;> simp
  unfold withOp
  simp only [hc, if_true]
  split
  · exact Or.inl rfl
  · exact Or.inr rfl

open GoRes.SvcApi in
/-- `TokenReset` publishes only `system.tokenReset` with a concrete subject (no wildcard token,
no empty token, no whitespace) and at least one token id; otherwise it publishes nothing -/
theorem token_reset_conformant (subj : Str) (tids : List Str) (l : List Pub)
    (h : tokenReset subj tids = .pubs l) :
    (l = [] ∧ tids = []) ∨
    (natsSubject subj = true ∧ tids ≠ [] ∧
      l = [⟨b!"system.tokenReset", b!"{\"subject\":" ++ SvcApi.q subj ++ b!",\"tids\":" ++ jsonList tids ++ [125]⟩]) := by
  unfold tokenReset at h
  split at h
  · cases h
  · next hc =>
    simp only [Bool.or_eq_true, Bool.not_eq_true', not_or, Bool.not_eq_true,
      Bool.not_eq_false] at hc
    split at h
    · next ht => exact Or.inl ⟨(Out.pubs.inj h).symm, List.isEmpty_iff.1 ht⟩
    · next ht =>
      exact Or.inr ⟨natsSubject_of_path hc.2 (by simpa using hc.1), by simpa using ht,
        (Out.pubs.inj h).symm⟩

open GoRes.SvcApi in
/-- `TokenEventWithID` publishes only on `conn.<cid>.token` for a connection id that is a single
valid token; an unmarshalable token publishes nothing -/
theorem token_event_conformant (cid tid : Str) (tok : Option Str) (l : List Pub)
    (h : tokenEvent cid tid tok = .pubs l) :
    natsToken cid = true ∧ (tok = none → l = []) ∧
    ∀ p ∈ l, p.subj = b!"conn." ++ cid ++ b!".token" ∧ natsSubject p.subj = true := by
  unfold tokenEvent at h
  split at h
  · cases h
  · next hc =>
    have hc' : Pattern.isValidPart cid = true := by simpa using hc
    have hn := natsToken_of_isValidPart hc'
    have hsubj : natsSubject (b!"conn." ++ cid ++ b!".token") = true := by
      show natsSubject (b!"conn" ++ 46 :: (cid ++ 46 :: b!"token")) = true
      rw [natsSubject_append_dot, natsSubject_append_dot,
        natsSubject_of_noDot (noDot_of_isValidPart hc'), hn]
      decide
    cases tok with
    | none =>
      obtain rfl := Out.pubs.inj h
      exact ⟨hn, fun _ => rfl, fun p hp => nomatch hp⟩
    | some t =>
      obtain rfl := Out.pubs.inj h
      exact ⟨hn, nofun, fun p hp => List.mem_singleton.1 hp ▸ ⟨rfl, hsubj⟩⟩

/-! ### non-vacuity of the service-API theorems: concrete calls satisfying their hypotheses -/

/-- `with_publications_conformant`: a valid resource id with an (empty) query part, a custom event -/
example : SvcApi.withOp SvcApi.patterns b!"svc.model.foo?" (.custom b!"upd") =
      .pubs [⟨b!"event.svc.model.foo.upd", b!"{\"v\":1}"⟩] ∧
    Pattern.isValidRID b!"svc.model.foo?" = true := by decide +kernel

/-- `with_publications_conformant`: a query part containing wildcard characters, a reset -/
example : SvcApi.withOp SvcApi.patterns b!"svc.model.foo?q=*.>" .reset =
      .pubs [⟨b!"system.reset", b!"{\"resources\":[\"svc.model.foo\"]}"⟩] ∧
    Pattern.isValidRID b!"svc.model.foo?q=*.>" = true := by decide +kernel

/-- `with_invalid_event_name_silent`: a reserved event name on a matching resource panics -/
example : Req.reserved.contains b!"change" = true ∧
    SvcApi.withOp SvcApi.patterns b!"svc.static" (.custom b!"change") = .panic := by decide +kernel

/-- `token_reset_conformant`: a wildcard subject is refused, a concrete one is published -/
example : SvcApi.tokenReset b!"auth.>" [b!"t1"] = .panic := by decide +kernel
example : SvcApi.tokenReset b!"auth.user" [b!"t1"] =
    .pubs [⟨b!"system.tokenReset", b!"{\"subject\":\"auth.user\",\"tids\":[\"t1\"]}"⟩] := by decide +kernel

/-- `token_event_conformant` -/
example : SvcApi.tokenEvent b!"cid1" b!"t1" (some b!"{}") =
    .pubs [⟨b!"conn.cid1.token", b!"{\"tid\":\"t1\",\"token\":{}}"⟩] := by decide +kernel

/-! ## non-vacuity -/
example : IsResponse false (withMeta [(b!"result", b!"null")] none) := .result _ none (by simp)

end GoRes.Props.C07
