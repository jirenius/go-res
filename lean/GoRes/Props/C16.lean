import GoRes.Model.Pool
import GoRes.Lemmas.Pool
import GoRes.Lemmas.PoolHB
import GoRes.Model.Discipline
import GoRes.Lemmas.Discipline
/-! # C16 — no data race under any concurrent use the API permits (partial)

What is logic here: every action of the pool model is one critical section of the service
mutex, so the order of actions in a run IS the synchronisation order of the mutex, and
"`x` happens before `y`" for two critical sections is "`x` comes earlier in the run".  The
theorems below say that the end of a group's callback (its `wDone` section, which records it
in `finished`) always precedes the start of the group's next callback (the section that
records it in `started`), and that a callback is enqueued (under the mutex) before it starts:
state touched only from callbacks of one group is therefore handed from callback to callback
through the mutex and needs no synchronisation by the user.  What is runtime — the absence
of unsynchronised accesses inside the library itself — is searched by the Go race detector
on concurrent workloads over the whole public API (`./check C16`). -/
namespace GoRes.Props.C16
open GoRes.Pool

/- `hd` (unique callback ids) is kept in the three statements below so that `c ∈ s.finished` names one
callback; the proofs hold without it (the linter is silenced instead of renaming the binder).  What
does need `hd` is the converse reading, `running_not_finished` / `finished_at_most_once` at the end. -/
set_option linter.unusedVariables false

/-- **a group's callbacks are totally ordered through the mutex**: in every reachable state, every
started callback of a group except the most recent one has finished … -/
theorem previous_callbacks_finished (acts : List Act) (s : St) (h : run init acts = some s)
    (hd : (s.accepted.map (·.2)).Nodup) (g : Nat) (hg : g ≠ 0) :
    ∀ c ∈ (cbsOf g s.started).dropLast, c ∈ s.finished := by
  obtain ⟨pre, h1, h2⟩ := (InvHB.reachable h).hb g hg
  have hlen : (cbsOf g (runL s.workers)).length ≤ 1 := by
    rw [length_cbsOf_runL]; have := (Inv.reachable h).le g hg; omega
  intro c hc
  -- all but the last of `pre ++ r`, where `r` holds at most the running callback, lie in `pre`
  rw [h1, List.dropLast_eq_take, List.take_append_of_le_length (by rw [List.length_append]; omega)] at hc
  exact h2 c (List.mem_of_mem_take hc)

/-- … and the most recent one is the one running now, if any is: when a callback of the group
starts, all earlier ones of the group have already ended (their ends happen-before its start) -/
theorem running_is_most_recent (acts : List Act) (s : St) (h : run init acts = some s)
    (hd : (s.accepted.map (·.2)).Nodup) (i : Nat) (w : Work) (cb : Nat)
    (hw : s.workers[i]? = some (.running w cb)) (hg : w.wid ≠ 0) :
    (cbsOf w.wid s.started).getLast? = some cb := by
  have hI := Inv.reachable h
  obtain ⟨pre, h1, _⟩ := (InvHB.reachable h).hb w.wid hg
  have hle : cntW w.wid s.workers ≤ 1 := by have := hI.le _ hg; omega
  rw [h1, cbsOf_runL_running hw rfl hle]
  simp

/-- no callback of a group is running exactly when all its started callbacks have finished -/
theorem idle_group_all_finished (acts : List Act) (s : St) (h : run init acts = some s)
    (hd : (s.accepted.map (·.2)).Nodup) (g : Nat) (hg : g ≠ 0)
    (hidle : ∀ (i : Nat) (w : Work) (cb : Nat), s.workers[i]? = some (WState.running w cb) → w.wid ≠ g) :
    ∀ c ∈ cbsOf g s.started, c ∈ s.finished := by
  obtain ⟨pre, h1, h2⟩ := (InvHB.reachable h).hb g hg
  have h0 : cntW g s.workers = 0 := by
    simp only [cntW, List.countP_eq_zero]
    intro ws hws hp
    obtain ⟨i, hi⟩ := List.getElem?_of_mem hws
    cases ws with
    | running w cb => exact hidle i w cb hi (by simpa [isWS, wsWid] using hp)
    | _ => simp [isWS, wsWid] at hp
  rw [h1, cbsOf_runL_of_cnt h0, List.append_nil]
  exact h2

/-- a callback finishes only after it started, and at most once -/
theorem finished_started (acts : List Act) (s : St) (h : run init acts = some s) :
    ∀ c ∈ s.finished, c ∈ s.started.map (·.2) :=
  (InvHB.reachable h).fin

/-- with unique ids the running callback is not among the finished ones: "finished" in the theorems
above really is an earlier end, not the current callback under a reused id (all groups, Parallel included) -/
theorem running_not_finished (acts : List Act) (s : St) (h : run init acts = some s)
    (hd : (s.accepted.map (·.2)).Nodup) (i : Nat) (w : Work) (cb : Nat)
    (hw : s.workers[i]? = some (.running w cb)) : cb ∉ s.finished := by
  intro hm
  have h1 := (InvHB.reachable h).once (Inv.reachable h) hd cb
  have h2 : 0 < (runL s.workers).countP (·.2 == cb) :=
    List.countP_pos_iff.mpr ⟨_, mem_runL_of_getElem? hw, by simp⟩
  have h3 := List.count_pos_iff.mpr hm
  omega

/-- … and a callback finishes at most once -/
theorem finished_at_most_once (acts : List Act) (s : St) (h : run init acts = some s)
    (hd : (s.accepted.map (·.2)).Nodup) : s.finished.Nodup :=
  List.nodup_iff_count.mpr fun c =>
    Nat.le_trans (Nat.le_add_right _ _) ((InvHB.reachable h).once (Inv.reachable h) hd c)

/-! ## access discipline of the library's own shared state, re-proved against the source on every run

`Generated/Access.lean` lists every read and write of a field of `Service`, `work` and `queryEvent`
found in /repo's current source, with the mutex state at that point and whether it is an atomic
operation; `Model/Discipline.lean` gives each field its synchronisation policy.  The theorems are
closed by kernel evaluation over the regenerated table, so a change of the source that moves an
access out of the mutex, turns an atomic access into a plain one, adds a writer outside the set-up
functions, or touches the connection fields after the service counts as started, makes them fail. -/

open GoRes.Discipline in
/-- **every access to shared state obeys the policy of its field** (mutex held, atomic, set-up only,
or lifecycle-ordered) -/
theorem discipline : ∀ a ∈ Generated.accesses, accOk a = true := by
  decide +kernel

open GoRes.Discipline in
/-- no field of the three structs is left without a policy: a new field must be classified -/
theorem every_field_classified :
    ∀ sf ∈ Generated.structFields, ∀ f ∈ sf.2, fieldClassified sf.1 f = true := by
  decide +kernel

open GoRes.Discipline in
/-- the same for the loggers and the BadgerDB store and query store: `MemLogger`'s buffer only under
its mutex; configuration fields written only by their setters -/
theorem discipline_ext : ∀ a ∈ Generated.extAccesses, accOk a = true := by
  decide +kernel

open GoRes.Discipline in
theorem every_ext_field_classified :
    ∀ sf ∈ Generated.extStructFields, ∀ f ∈ sf.2, fieldClassified sf.1 f = true := by
  decide +kernel

/-- a function analysed as "entered with the mutex held" really is called only with it held -/
theorem locked_entry_justified :
    ∀ c ∈ Generated.calls, Generated.entryLocked.contains c.1 = true → c.2.2 = "L" := by
  decide +kernel

open GoRes.Discipline in
/-- the start/stop state machine orders the unguarded accesses: `serve` writes everything the workers
read before it starts them and publishes `stateStarted` only afterwards, and neither `serve` (from
then on) nor `subscribe` touches what a concurrent `Shutdown` clears; `Shutdown` begins with its CAS
and publishes `stateStopped` last -/
theorem lifecycle_order :
    (Generated.sourceOrder.lookup "Service.serve").map serveOrderOk = some true ∧
    (Generated.sourceOrder.lookup "Service.subscribe").map subscribeOrderOk = some true ∧
    (Generated.sourceOrder.lookup "Service.Shutdown").map shutdownOrderOk = some true :=
  ⟨serve_order.1, serve_order.2, shutdown_order⟩

/-! ## what the `guarded` and `atomicOnly` policies buy -/

open GoRes.Discipline in
/-- **a location that is only ever accessed with the mutex held has no data race**, in every execution
that respects the mutex — whatever the goroutines, however many, in whatever order -/
theorem guarded_race_free (tr : List Ev) (x : Nat) (hm : MutexOrdered tr) (hg : Guarded tr x) : ¬ Race tr x := by
  rintro ⟨i, j, ei, ej, hij, hi, hj, hxi, hxj, _, _, hne, hnhb⟩
  have mi := List.mem_of_getElem? hi
  have mj := List.mem_of_getElem? hj
  obtain ⟨a, ha⟩ := Option.isSome_iff_exists.mp (hg ei mi hxi)
  obtain ⟨b, hb⟩ := Option.isSome_iff_exists.mp (hg ej mj hxj)
  obtain ⟨hab, hsame⟩ := hm i j ei ej hij hi hj a b ha hb
  rcases Nat.lt_or_eq_of_le hab with hlt | heq
  · exact hnhb ⟨ei, ej, hij, hi, hj, Or.inr ⟨a, b, ha, hb, hlt⟩⟩
  · exact hne (hsame heq)

open GoRes.Discipline in
/-- a location that is only accessed through `sync/atomic` has no data race -/
theorem atomic_race_free (tr : List Ev) (x : Nat) (ha : AtomicOnly tr x) : ¬ Race tr x := by
  rintro ⟨i, j, ei, ej, _, hi, hj, hxi, hxj, _, hna, _, _⟩
  exact hna ⟨ha ei (List.mem_of_getElem? hi) hxi, ha ej (List.mem_of_getElem? hj) hxj⟩

/-! ## non-vacuity -/
-- two goroutines, two critical sections on location 7: guarded, mutex-ordered, and indeed ordered
open GoRes.Discipline in
example : HB [⟨1, 7, true, false, some 0⟩, ⟨2, 7, false, false, some 1⟩] 0 1 :=
  ⟨_, _, by decide, rfl, rfl, Or.inr ⟨0, 1, rfl, rfl, by decide⟩⟩
-- and an unguarded write beside a guarded read by another goroutine is a race
open GoRes.Discipline in
example : Race [⟨1, 7, true, false, none⟩, ⟨2, 7, false, false, some 0⟩] 7 := by
  refine ⟨0, 1, _, _, by decide, rfl, rfl, rfl, rfl, Or.inl rfl, by decide, by decide, ?_⟩
  rintro ⟨ei, ej, _, hi, hj, h⟩
  simp only [List.getElem?_cons_zero, List.getElem?_cons_succ, Option.some.injEq] at hi hj
  subst hi; subst hj
  rcases h with h | ⟨a, b, ha, _, _⟩
  · exact absurd h (by decide)
  · cases ha

open GoRes.Discipline in
example : (Generated.accesses.filter (fun a => Acc.lock a == "L")).length ≥ 10 ∧
    accOk ("Service", "rwork", "Service.serve", "w", "U") = false ∧
    accOk ("Service", "nc", "Service.subscribe", "r", "U") = false ∧
    accOk ("queryEvent", "expired", "queryEvent.handleQueryRequest", "r", "U") = false := by decide +kernel

example : ∃ s, run init [.serve 1, .subCheck 1 7 1 true, .subLock 1, .subSignal 1, .wStart 0,
    .subCheck 2 7 2 true, .subLock 2, .wDone 0] = some s ∧ cbsOf 7 s.started = [1, 2] ∧ s.finished = [1] := by
  refine ⟨_, rfl, ?_⟩; decide

end GoRes.Props.C16
