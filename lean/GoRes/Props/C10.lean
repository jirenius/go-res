import GoRes.Model.Diff
import GoRes.Lemmas.Diff
/-! # C10 — clients of store-backed resources stay coherent with a fresh get

Theorems about the model of `store/storehandler.go` (Model/Diff.lean): the events
published for a mutation, applied in order by a client that held the value served
before, give exactly the value served after — for every pair of values, and for the
collection diff *for every content of the LCS table* (correctness does not depend on
the table; only minimality does). -/
namespace GoRes.Props.C10
open GoRes GoRes.Diff

variable {α : Type} [DecidableEq α] [Inhabited α]

set_option linter.unusedSectionVars false
set_option linter.unusedVariables false

/-- **collection edit script**: remove/add events turn the old collection into the new one,
with every index in range at the moment it is applied (`applyAll` fails on an out-of-range
index), whatever the table says -/
theorem collection_edit_script (tbl : List α → List α → Nat → Nat → Nat) (a b : List α) :
    applyAll a (collectionDiffWith tbl a b) = some b := by
  unfold collectionDiffWith
  simp only
  split
  · next h => exact congrArg some (eq_of_commonPrefix h.1 h.2)
  · obtain ⟨p, aa, bb, q, ha, hb, hp, haa, hbb⟩ := trim_decomp a b
    rw [← haa, ← hbb, ← hp, ha, hb]
    exact walk_correct p aa bb q _

/-- the shipped diff (with the real LCS table) is an instance -/
theorem collectionDiff_correct (a b : List α) : applyAll a (collectionDiff a b) = some b :=
  collection_edit_script lcsTable a b

/-- a mutation that does not alter the served collection publishes nothing -/
theorem collection_silent (tbl : List α → List α → Nat → Nat → Nat) (a : List α) :
    collectionDiffWith tbl a a = [] := by
  simp [collectionDiffWith, commonPrefix_self]

/-- keys of a model are unique (a JSON object decoded into a Go map) -/
def NodupKeys (m : Model α) : Prop := (m.map (·.1)).Nodup

/-- **model edit script**: the change event turns the old model into the new one (as maps) -/
theorem model_edit_script (before after : Model α) (hb : NodupKeys before) (ha : NodupKeys after) (k : Str) :
    mget (applyChange before (modelDiff before after)) k = mget after k := by
  apply mget_applyChange
  · rintro ⟨k', v⟩ he
    exact ((mem_modelDiff before ha k' v).1 he).1
  · by_cases h : mget before k = mget after k
    · exact .inl h
    · exact .inr ⟨(k, mget after k), (mem_modelDiff before ha _ _).2 ⟨rfl, h⟩, rfl⟩

/-- removed keys are sent as delete actions, and only keys whose value differs are sent -/
theorem model_change_minimal (before after : Model α) (hb : NodupKeys before) (ha : NodupKeys after)
    (k : Str) (v : Option α) (h : (k, v) ∈ modelDiff before after) :
    (v = none → mget before k ≠ none ∧ mget after k = none) ∧
    (∀ x, v = some x → mget after k = some x ∧ mget before k ≠ some x) := by
  obtain ⟨rfl, hne⟩ := (mem_modelDiff before ha k v).1 h
  exact ⟨fun hv => ⟨hv ▸ hne, hv⟩, fun x hx => ⟨hx, hx ▸ hne⟩⟩

theorem model_silent (m : Model α) (h : NodupKeys m) : modelDiff m m = [] := by
  apply List.eq_nil_iff_forall_not_mem.2
  rintro ⟨k, v⟩ he
  exact ((mem_modelDiff m h k v).1 he).2 rfl

/-- what a get serves for a stored value / default -/
def served (dflt : Option (Val α)) (stored : Option (Val α)) : Option (Val α) :=
  match stored with | some v => some v | none => dflt

/-- **handler cases**: with or without default, the events published for `before → after` take a
client holding `served before` to `served after`; creation/deletion of a resource that get
reports as missing is announced as create/delete; equal representations publish nothing -/
theorem handler_coherent_collection (dflt : Option (List α)) (before after : Option (List α)) :
    match changeHandler (α := α) .collection (dflt.map .coll) (before.map .coll) (after.map .coll),
          (match before with | some v => some v | none => dflt),
          (match after with | some v => some v | none => dflt) with
    | .coll evs, some sb, some sa => applyAll sb evs = some sa
    | .nothing, some sb, some sa => sb = sa
    | .nothing, none, none => True
    | .create, none, some _ => True
    | .delete, some _, none => True
    | _, _, _ => False := by
  have hs (x : Option (List α)) : (match x with | some v => some v | none => dflt) = x.or dflt := by
    cases x <;> rfl
  rw [changeHandler_served, hs, hs, ← Option.map_or, ← Option.map_or]
  generalize before.or dflt = sb
  generalize after.or dflt = sa
  cases sb with
  | none => cases sa <;> trivial
  | some sb =>
    cases sa with
    | none => trivial
    | some sa =>
      have h := collectionDiff_correct sb sa
      rw [Option.map_some, Option.map_some, changeHandler_coll]
      by_cases he : (collectionDiff sb sa).isEmpty = true
      · rw [if_pos he]
        rw [List.isEmpty_iff.1 he] at h
        exact Option.some.inj h
      · rw [if_neg he]
        exact h

theorem handler_coherent_model (dflt : Option (Model α)) (before after : Option (Model α))
    (hd : ∀ m, dflt = some m → NodupKeys m) (hb : ∀ m, before = some m → NodupKeys m)
    (ha : ∀ m, after = some m → NodupKeys m) :
    match changeHandler (α := α) .model (dflt.map .model) (before.map .model) (after.map .model),
          (match before with | some v => some v | none => dflt),
          (match after with | some v => some v | none => dflt) with
    | .change ch, some sb, some sa => ∀ k, mget (applyChange sb ch) k = mget sa k
    | .nothing, some sb, some sa => ∀ k, mget sb k = mget sa k
    | .nothing, none, none => True
    | .create, none, some _ => True
    | .delete, some _, none => True
    | _, _, _ => False := by
  have hs (x : Option (Model α)) : (match x with | some v => some v | none => dflt) = x.or dflt := by
    cases x <;> rfl
  have hn {x : Option (Model α)} (hx : ∀ m, x = some m → NodupKeys m) (m : Model α)
      (h : x.or dflt = some m) : NodupKeys m :=
    (Option.or_eq_some_iff.1 h).elim (hx m) fun h => hd m h.2
  have hsb := hn hb
  have hsa := hn ha
  rw [changeHandler_served, hs, hs, ← Option.map_or, ← Option.map_or]
  generalize before.or dflt = sb at *
  generalize after.or dflt = sa at *
  cases sb with
  | none => cases sa <;> trivial
  | some sb =>
    cases sa with
    | none => trivial
    | some sa =>
      have h := model_edit_script sb sa (hsb _ rfl) (hsa _ rfl)
      rw [Option.map_some, Option.map_some, changeHandler_model]
      by_cases he : (modelDiff sb sa).isEmpty = true
      · rw [if_pos he]
        rw [List.isEmpty_iff.1 he] at h
        exact h
      · rw [if_neg he]
        exact h

/-! ## non-vacuity -/
example : applyAll [1, 2, 3, 4] ([.remove 2, .remove 0, .add 9 1, .add 1 3] : List (Ev Nat)) = some [2, 9, 4, 1] := by decide
/-- the shipped diff on a concrete pair (prefix `1` and suffix `4` trimmed, one removal, two adds) -/
example : collectionDiff [1, 2, 3, 4] [1, 9, 3, 7, 4] = [.remove 1, .add 9 1, .add 7 3] := by decide

end GoRes.Props.C10
