import GoRes.Model.Subs
import GoRes.Lemmas.Subs
/-! # C09 — subscriptions cover exactly the owned resources; reset announces them

Theorems about the model of `setDefaultOwnership` / `subscribe` (Model/Subs.lean). -/
namespace GoRes.Props.C09
open GoRes GoRes.Subs

/-- default ownership: the service name and everything below it, everything when the name is
empty, and only for the handler kinds actually registered; explicit lists are used as given -/
theorem default_ownership (c : Cfg) :
    ownership c =
      (match c.resources with
        | some r => r
        | none => if c.hasRes then (if c.name.isEmpty then [[Ch.gt]] else [c.name, c.name ++ [Ch.dot, Ch.gt]]) else [],
       match c.access with
        | some a => a
        | none => if c.hasAccess then (if c.name.isEmpty then [[Ch.gt]] else [c.name, c.name ++ [Ch.dot, Ch.gt]]) else []) := by
  rfl

/-- **no subscription is redundant**: no subscribed subject is matched by a different
subscribed subject (for *every* ownership configuration, valid or not) -/
theorem irredundant (c : Cfg) (subs : List Str) (h : subscribe c = some subs)
    (i j : Nat) (hi : i < subs.length) (hj : j < subs.length) (hne : i ≠ j) :
    Pattern.matches subs[j] subs[i] = false := by
  have he := subscribe_eq h
  subst he
  simp only [List.length_map] at hi hj
  simp only [List.getElem_map]
  exact keptIdx_irredundant _ i j hi hj hne

/-- an owned pattern is well-formed: non-empty, made of literal tokens, `*` and a trailing `>` -/
def ownedOk (p : Str) : Prop :=
  ∃ ts : List Pattern.Tok, ts ≠ [] ∧ Pattern.wfPat ts = true ∧ Pattern.tagsOf ts = [] ∧ p = Pattern.render ts

/-- **coverage at the pattern level**: every request pattern of every owned pattern is matched
by a subscribed subject -/
theorem covers (c : Cfg) (subs : List Str) (h : subscribe c = some subs)
    (hok : ∀ p ∈ (ownership c).1 ++ (ownership c).2, ownedOk p)
    (n : Str) (hn : n ∈ allPatterns (ownership c).1 (ownership c).2) :
    ∃ s ∈ subs, Pattern.matches s n = true := by
  have hn' := allPatterns_ok hok n hn
  rw [subscribe_eq h]
  exact subs_cover (allPatterns_ok hok) hn hn' (matches_refl_of hn')

/-- **coverage of concrete request subjects**: for an owned pattern `p`, a resource name matching
`p` and a method, the subjects `get.<name>`, `call.<name>.<method>`, `auth.<name>.<method>` and
(for access patterns) `access.<name>` are each matched by some subscription -/
theorem covers_requests (c : Cfg) (subs : List Str) (h : subscribe c = some subs)
    (hok : ∀ p ∈ (ownership c).1 ++ (ownership c).2, ownedOk p)
    (p : Str) (hp : p ∈ (ownership c).1) (name method : List Pattern.Tok) (hname : Pattern.isName name = true)
    (hm : Pattern.matches p (Pattern.render name) = true)
    (hmeth : ∃ s, method = [.lit s] ∧ Pattern.litOk s = true) :
    (∃ s ∈ subs, Pattern.matches s (tGet ++ Ch.dot :: Pattern.render name) = true) ∧
    (∃ s ∈ subs, Pattern.matches s (tCall ++ Ch.dot :: Pattern.render (name ++ method)) = true) ∧
    (∃ s ∈ subs, Pattern.matches s (tAuth ++ Ch.dot :: Pattern.render (name ++ method)) = true) := by
  obtain ⟨m, rfl, hmok⟩ := hmeth
  have hall := allPatterns_ok hok
  have hpok : OwnedOk p := hok p (List.mem_append_left _ hp)
  have need : ∀ t ∈ [tGet, tCall, tAuth], reqPattern t p ∈ allPatterns (ownership c).1 (ownership c).2 :=
    fun t ht => mem_allPatterns.2 (Or.inl ⟨t, ht, p, hp, rfl⟩)
  have hname' := Pattern.isName_append_lit hname hmok
  rw [subscribe_eq h]
  exact ⟨subs_cover hall (need _ (by simp)) (.cons_lit (by decide) (.of_isName hname))
      (reqPattern_matches_get hpok hname hm),
    subs_cover hall (need _ (by simp)) (.cons_lit (by decide) (.of_isName hname'))
      (reqPattern_matches_method (by decide) (by decide) hpok hname hm hmok),
    subs_cover hall (need _ (by simp)) (.cons_lit (by decide) (.of_isName hname'))
      (reqPattern_matches_method (by decide) (by decide) hpok hname hm hmok)⟩

theorem covers_access (c : Cfg) (subs : List Str) (h : subscribe c = some subs)
    (hok : ∀ p ∈ (ownership c).1 ++ (ownership c).2, ownedOk p)
    (p : Str) (hp : p ∈ (ownership c).2) (name : List Pattern.Tok) (hname : Pattern.isName name = true)
    (hm : Pattern.matches p (Pattern.render name) = true) :
    ∃ s ∈ subs, Pattern.matches s (tAccess ++ Ch.dot :: Pattern.render name) = true := by
  rw [subscribe_eq h]
  exact subs_cover (allPatterns_ok hok) (mem_allPatterns.2 (Or.inr ⟨p, hp, rfl⟩))
    (.cons_lit (by decide) (.of_isName hname))
    (accPattern_matches (by decide) (hok p (List.mem_append_right _ hp)) hname hm)

/-- **every subscribed subject is a valid NATS subject** -/
theorem subjects_valid (c : Cfg) (subs : List Str) (h : subscribe c = some subs)
    (hok : ∀ p ∈ (ownership c).1 ++ (ownership c).2, ownedOk p) :
    ∀ s ∈ subs, validSubject s = true := by
  intro s hs
  exact validSubject_of (allPatterns_ok hok s (subs_subset (subscribe_eq h ▸ hs)))

/-- the default ownership patterns of a named service are well-formed owned patterns, so the
four theorems above that assume `hok` apply to every service with a valid name and no explicit ownership -/
theorem default_ok (name : Str) (ts : List Pattern.Tok) (hts : Pattern.isName ts = true) (hn : name = Pattern.render ts) :
    ∀ p ∈ defaultPatterns name, ownedOk p := by
  subst hn
  have hne := Pattern.isName_ne_nil hts
  have hw := Pattern.wfPat_of_isName hts
  have hr := Pattern.render_ne_nil hne hw
  have hl := Pattern.isName_isLits hts
  unfold defaultPatterns
  simp only [List.isEmpty_iff, hr, if_false]
  intro p hp
  simp only [List.mem_cons, List.not_mem_nil, or_false] at hp
  rcases hp with rfl | rfl
  · exact OwnedOk.of_isName hts
  · refine ⟨ts ++ [.full], by simp, Pattern.wfPat_append hw hl.getLast?_ne_full rfl,
      by rw [Pattern.tagsOf_append, hl.tagsOf]; rfl, ?_⟩
    rw [Pattern.render_append ts [.full] hne (by simp)]
    rfl

theorem default_ok_noname : ∀ p ∈ defaultPatterns [], ownedOk p := by
  intro p hp
  simp [defaultPatterns] at hp
  subst hp
  exact ⟨[.full], by simp, by decide, by decide, by decide⟩

/-- on well-formed subscription subjects the library's `Matches` is NATS subject matching -/
theorem matches_is_nats (ps ss : List Pattern.Tok) (hp : Pattern.wfPat ps = true) (hs : Pattern.wfPat ss = true)
    (hpt : Pattern.tagsOf ps = []) (hst : Pattern.tagsOf ss = []) (hne : ps ≠ []) (hne' : ss ≠ []) :
    Pattern.matches (Pattern.render ps) (Pattern.render ss) = Subs.covers (Pattern.render ps) (Pattern.render ss) := by
  -- `hst` is not needed: to `tokMatches_nats` a tag on the right is a token like any other
  have _ := hst
  rw [Pattern.matches_tok _ _ hp hs, tokMatches_nats ps ss hp hs hpt, Subs.covers,
    Pattern.splitDots_render hne (Pattern.wfPat_sOk hp), Pattern.splitDots_render hne' (Pattern.wfPat_sOk hs)]

/-! ## non-vacuity -/
-- "a" = [97], "a.>" = [97,46,62]
example : ownedOk [97, 46, 62] := ⟨[.lit [97], .full], by simp, by decide, by decide, by decide⟩
example : (ownership ⟨[], true, false, none, none⟩) = ([[62]], []) := by decide

-- service "a" with resource handlers, default ownership: owned "a", "a.>";
-- "call.a.*" and "auth.a.*" are skipped because "call.a.>" / "auth.a.>" cover them
example : subscribe ⟨[97], true, false, none, none⟩ =
    some [[103, 101, 116, 46, 97],                       -- get.a
          [103, 101, 116, 46, 97, 46, 62],               -- get.a.>
          [99, 97, 108, 108, 46, 97, 46, 62],            -- call.a.>
          [97, 117, 116, 104, 46, 97, 46, 62]] := by     -- auth.a.>
  decide +kernel

-- explicit ownership with a duplicate ("a.>" twice) and a covered pattern ("a.*"), access ">":
-- each subject is subscribed once
example : subscribe ⟨[97], true, true, some [[97, 46, 62], [97, 46, 62], [97, 46, 42]], some [[62]]⟩ =
    some [[103, 101, 116, 46, 97, 46, 62],               -- get.a.>
          [99, 97, 108, 108, 46, 97, 46, 62],            -- call.a.>
          [97, 117, 116, 104, 46, 97, 46, 62],           -- auth.a.>
          [97, 99, 99, 101, 115, 115, 46, 62]] := by     -- access.>
  decide +kernel

-- nothing registered: "no resources to serve"
example : subscribe ⟨[97], false, false, none, none⟩ = none := by decide

-- the hypotheses of `covers_requests` are met by the default service "a", owned pattern "a.>",
-- resource "a.b", method "m": "call.a.b.m" is matched by a subscription
example : ∃ subs, subscribe ⟨[97], true, false, none, none⟩ = some subs ∧
    ∃ s ∈ subs, Pattern.matches s (tCall ++ Ch.dot :: Pattern.render [.lit [97], .lit [98], .lit [109]]) = true := by
  refine ⟨_, rfl, ?_⟩
  have hok := default_ok [97] [.lit [97]] (by decide) (by decide)
  exact (covers_requests ⟨[97], true, false, none, none⟩ _ rfl
    (fun p hp => hok p (by simpa [ownership] using hp))
    [97, 46, 62] (by decide) [.lit [97], .lit [98]] [.lit [109]] (by decide)
    (by decide +kernel)
    ⟨[109], rfl, by decide⟩).2.1

end GoRes.Props.C09
