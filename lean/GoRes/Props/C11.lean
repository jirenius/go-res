import GoRes.Model.StoreMap
import GoRes.Lemmas.StoreMap
import GoRes.Model.Lock
/-! # C11 — stores behave like a per-id linearizable map with exact change callbacks

The sequential core: every operation of a transaction on an id, for every history. (That
operations of different goroutines on one id do not interleave is the per-id RW lock —
`keylock` for badgerstore, the store mutex for mockstore — exercised by the concurrent
correspondence run, not by these theorems.) -/
namespace GoRes.Props.C11
open GoRes GoRes.Index GoRes.StoreMap

variable {V : Type}

/-- the abstract map an operation is supposed to act on -/
def mapApply (m : Bytes → Option V) (id : Bytes) : Op V → (Bytes → Option V)
  | .create v _ => fun k => if k = id then some v else m k
  | .update v _ => fun k => if k = id then some v else m k
  | .delete => fun k => if k = id then none else m k
  | _ => m

def absMap (s : St V) : Bytes → Option V := fun k => vget s.vals k

def IdsDistinct (s : St V) : Prop := (s.vals.map (·.1)).Nodup

/-- **refinement**: a successful mutation acts on the state exactly as on a key-value map -/
theorem refines_map (s : St V) (hd : IdsDistinct s) (id : Bytes) (op : Op V) (cbs : List (Cb V)) (s' : St V)
    (h : exec s id op = (.ok, cbs, s')) : absMap s' = mapApply (absMap s) id op ∧ IdsDistinct s' := by
  obtain ⟨a, hw, -, rfl⟩ := exec_ok h
  refine ⟨funext fun k => ?_, nodup_vput _ _ _ hd⟩
  cases op <;> cases hw <;> simp [absMap, mapApply, vget_vput]

/-- **error contract**: Create on an existing id fails with duplicate and on an empty id fails
unless the store generates ids; Update/Delete/Value on a missing id fail with not-found; a
wrong type or a veto fails; every failure leaves the state unchanged and runs no callback -/
theorem error_contract (s : St V) (id : Bytes) (op : Op V) (e : Err) (cbs : List (Cb V)) (s' : St V)
    (h : exec s id op = (.err e, cbs, s')) : s' = s ∧ cbs = [] := by
  obtain ⟨_, _, hr⟩ | ⟨_, hr⟩ := exec_spec s id op h
  · cases hr
  · cases hr; exact ⟨rfl, rfl⟩

theorem create_existing (s : St V) (id : Bytes) (v w : V) (hne : id ≠ []) (h : vget s.vals id = some w) :
    (exec s id (.create v true)).1 = .err .duplicate := by
  simp [exec, h, hne]

theorem create_empty_id (s : St V) (v : V) (hg : s.generatesIds = false) :
    (exec s [] (.create v true)).1 = .err .noId := by
  simp [exec, hg]

theorem missing_is_not_found (s : St V) (id : Bytes) (v : V) (h : vget s.vals id = none) :
    (exec s id (.update v true)).1 = .err .notFound ∧ (exec s id .delete).1 = .err .notFound ∧
    (exec s id .value).1 = .err .notFound ∧ (exec s id .exists_).1 = .bool false := by
  simp [exec, h]

/-- **exactly one callback per successful mutation**, with the id, the value immediately before
and the value immediately after -/
theorem callback_exact (s : St V) (id : Bytes) (op : Op V) (cbs : List (Cb V)) (s' : St V)
    (h : exec s id op = (.ok, cbs, s')) :
    ∃ cb, cbs = [cb] ∧ cb.id = id ∧ cb.before = vget s.vals id ∧ cb.after = vget s'.vals id := by
  obtain ⟨a, -, rfl, rfl⟩ := exec_ok h
  exact ⟨_, rfl, rfl, rfl, by simp [vget_vput]⟩

/-- the callbacks of `id` in the list form a chain that starts at the value `cur` -/
def chainFrom (id : Bytes) : Option V → List (Cb V) → Prop
  | _, [] => True
  | cur, cb :: rest => if cb.id = id then cb.before = cur ∧ chainFrom id cb.after rest else chainFrom id cur rest

/-- **callback chain**: over any history, the callbacks of one id form a chain — each one's
`before` is the previous one's `after` (the first one's `before` is the initial value) -/
theorem callback_chain (s : St V) (hd : IdsDistinct s) (hist : List (Bytes × Op V)) (id : Bytes) :
    chainFrom id (vget s.vals id) (run s hist).1 := by
  have _h := hd; clear _h hd  -- (distinct ids are not needed for this property)
  induction hist generalizing s with
  | nil => simp [run, chainFrom]
  | cons x rest ih =>
    obtain ⟨id0, op⟩ := x
    simp only [run]
    have ih' := ih (exec s id0 op).2.2
    obtain ⟨a, _, hr⟩ | ⟨_, hr⟩ := exec_spec s id0 op rfl
    · rw [hr] at ih' ⊢
      simp only [List.singleton_append, chainFrom, vget_vput] at ih' ⊢
      by_cases hid : id0 = id
      · subst hid; simpa using ih'
      · have : ¬ id = id0 := fun e => hid e.symm
        simpa [hid, this] using ih'
    · simp only [hr] at ih' ⊢
      exact ih'

/-- **reads see the transaction's own writes** -/
theorem reads_own_writes (s : St V) (hd : IdsDistinct s) (id : Bytes) (v : V) (cbs : List (Cb V)) (s' : St V) :
    (exec s id (.create v true) = (.ok, cbs, s') → (exec s' id .value).1 = .val v ∧ (exec s' id .exists_).1 = .bool true) ∧
    (exec s id (.update v true) = (.ok, cbs, s') → (exec s' id .value).1 = .val v) ∧
    (exec s id .delete = (.ok, cbs, s') → (exec s' id .value).1 = .err .notFound ∧ (exec s' id .exists_).1 = .bool false) := by
  have _ := hd
  refine ⟨?_, ?_, ?_⟩ <;> intro h <;> obtain ⟨a, hw, -, rfl⟩ := exec_ok h <;> cases hw <;>
    simp [exec, vget_vput]


/-! ## the per-id lock

`Read`/`Write` take the id's read/write lock until `Close`. -/

open GoRes.Lock in
/-- **while a transaction on an id is open no write transaction on that id makes progress** -/
theorem write_excluded_while_open (l : L) (h : isOpen l = true) : step l .lock = none := by
  simp only [isOpen] at h
  simp [step, h]

open GoRes.Lock in
/-- a writer and readers never hold the lock together, in any reachable state -/
theorem writer_alone (acts : List Act) (l : L) (h : Lock.run {} acts = some l) : l.writer = true → l.readers = 0 := by
  -- the invariant holds in every state reached from a state in which it holds
  suffices gen : ∀ l0 : L, (l0.writer = true → l0.readers = 0) → Lock.run l0 acts = some l →
      l.writer = true → l.readers = 0 from gen {} (fun _ => rfl) h
  clear h
  intro l0
  fun_induction Lock.run l0 acts with
  | case1 l0 => intro h0 hr; cases hr; exact h0
  | case2 l0 a as l1 hs ih =>
    refine fun h0 => ih ?_
    revert hs
    fun_cases step l0 a <;> intro hs <;> cases hs <;> intro hw
    · contradiction   -- `rlock` is granted without a writer only
    · rw [h0 hw]      -- `runlock`: beside a writer there was no reader
    · -- `lock` is granted without readers only
      exact Nat.eq_zero_of_not_pos fun hr => ‹¬ _› (by simp [hr])
    · cases hw        -- `unlock`: the writer is gone
  | case3 => intro _ hr; cases hr

open GoRes.Lock in
/-- what the correspondence run observes (`excl`): a contender on the id of an open transaction
is granted only if both are readers; on badgerstore other ids are never affected -/
theorem grants (heldWrite contWrite : Bool) :
    grantedBadger heldWrite contWrite true = (!heldWrite && !contWrite) ∧
    grantedBadger heldWrite contWrite false = true ∧
    (grantedBadger heldWrite contWrite true =
      (match step (if heldWrite then { writer := true } else { readers := 1 }) (if contWrite then .lock else .rlock) with
       | some _ => true | none => false)) := by
  cases heldWrite <;> cases contWrite <;> simp [grantedBadger, step]

example : GoRes.Lock.run {} [.rlock, .rlock, .runlock, .runlock, .lock, .unlock] = some {} := by decide
example : GoRes.Lock.run {} [.rlock, .lock] = none := by decide

end GoRes.Props.C11
