import GoRes.Model.Index
import GoRes.Lemmas.Index
import GoRes.Model.QueryHandler
import GoRes.Lemmas.QueryHandler
/-! # C14 — query subscribers are always told when their result may have changed -/
namespace GoRes.Props.C14
open GoRes GoRes.Index

/-- the query-change callbacks run exactly when the mutation changes the value's key in some
index (once per mutation: `updateIndex` is called once per change, in task order) -/
theorem callback_iff_key_change {V : Type} (idxs : List (Idx V)) (id : Bytes) (before after : Option V) (db : DB) :
    (updateIndex idxs id before after db).2 = idxs.any (fun ix => before.bind ix.key != after.bind ix.key) := by
  rw [updateIndex, updateIndex_fold, Bool.false_or]

/-- **sound**: if the mutation changes what the query returns, the change reports the query as
affected — for every prefix, filter, window and direction -/
theorem affected_sound {V : Type} (ix : Idx V) (vals : List (Bytes × V)) (id : Bytes) (after : Option V)
    (pre : Bytes) (filter : Bytes → Bool) (offset limit : Int) (reverse : Bool)
    (hd : (vals.map (·.1)).Nodup)
    (hne : spec (entriesOf ix vals) pre filter offset limit reverse ≠
           spec (entriesOf ix (vput vals id after)) pre filter offset limit reverse) :
    affectsQuery ix pre (some filter) (vget vals id) after = true := by
  cases h : affectsQuery ix pre (some filter) (vget vals id) after with
  | true => rfl
  | false => exact absurd (spec_eq_of_not_affects offset limit reverse hd h) hne

/-- **unaffected when nothing matches**: if neither the old nor the new key matches the query
(prefix and filter), the query is reported unaffected; a value that is not indexed matches nothing -/
theorem unaffected_when_no_match {V : Type} (ix : Idx V) (pre : Bytes) (filter : Option (Bytes → Bool)) (before after : Option V)
    (hb : ∀ k, before.bind ix.key = some k → ¬ (pre.isPrefixOf k = true ∧ (∀ f, filter = some f → f k = true)))
    (ha : ∀ k, after.bind ix.key = some k → ¬ (pre.isPrefixOf k = true ∧ (∀ f, filter = some f → f k = true))) :
    affectsQuery ix pre filter before after = false := by
  rw [affectsQuery_eq, keyHit_eq_false hb, keyHit_eq_false ha, Bool.or_self, Bool.and_false]

/-- a mutation that keeps the key is never reported -/
theorem same_key_unaffected {V : Type} (ix : Idx V) (pre : Bytes) (filter : Option (Bytes → Bool)) (before after : Option V)
    (h : before.bind ix.key = after.bind ix.key) : affectsQuery ix pre filter before after = false := by
  simp [affectsQuery_eq, h]

/-! ## through the query handler (`store/querystorehandler.go`)

A client holds the (transformed) result of a query. When the query store reports a change,
the handler tells it something (`resourceEvent` for an ordinary resource, `queryRequest` for
the client's query request on a query resource); after reacting to it the client holds what
a fresh get serves — provided the query store's `Events` answer is sound for the change of
the result. -/

open GoRes.QueryHandler in
/-- query resources: the answer to the client's query request is a new result or events -/
theorem query_client_coherent (tr : Trans) (t : RidOf) (a : Answer) (old new : List Bytes)
    (hold : old.Nodup) (hs : soundAnswer a old new) :
    clientApply (transformResult tr t old) (queryRequest tr t a (transformResult tr t new)) = transformResult tr t new := by
  unfold queryRequest
  by_cases hr : a.reset = true
  · rw [if_pos hr]
    rfl
  · obtain ⟨hwf, rfl⟩ := hs.resolve_left hr
    rw [if_neg hr]
    exact events_coherent tr t a.events old hold hwf

open GoRes.QueryHandler in
/-- ordinary resources: reset → the client fetches again; events → it applies them -/
theorem resource_client_coherent (tr : Trans) (t : RidOf) (a : Answer) (old new : List Bytes)
    (hold : old.Nodup) (hs : soundAnswer a old new) :
    clientApply (transformResult tr t old) (resourceEvent tr t a (transformResult tr t new)) = transformResult tr t new := by
  -- the client hears nothing where a query request is answered with no events, and ends up the same
  rw [clientApply_resourceEvent]
  exact query_client_coherent tr t a old new hold hs

open GoRes.QueryHandler in
/-- BadgerDB's `queryChange.Events` (no events, reset = affected) is a sound answer for every
mutation and every query: by `affected_sound` -/
theorem badger_answer_sound {V : Type} (ix : Idx V) (vals : List (Bytes × V)) (id : Bytes) (after : Option V)
    (pre : Bytes) (filter : Bytes → Bool) (offset limit : Int) (reverse : Bool)
    (hd : (vals.map (·.1)).Nodup) :
    soundAnswer (badgerAnswer ix pre (some filter) (vget vals id) after)
      (spec (entriesOf ix vals) pre filter offset limit reverse)
      (spec (entriesOf ix (vput vals id after)) pre filter offset limit reverse) := by
  unfold soundAnswer badgerAnswer
  by_cases h : affectsQuery ix pre (some filter) (vget vals id) after = true
  · exact Or.inl h
  · right
    simp [wfEvents, spec_eq_of_not_affects offset limit reverse hd (Bool.eq_false_iff.2 h)]

open GoRes.QueryHandler in
/-- **end to end**: with the BadgerDB query store behind the handler, a client holding a query
result — on an ordinary or on a query resource, with any of the stock transformers — holds a
fresh get's result after every mutation, for every query (prefix, filter, window, direction) -/
theorem badger_clients_coherent {V : Type} (ix : Idx V) (vals : List (Bytes × V)) (id : Bytes) (after : Option V)
    (pre : Bytes) (filter : Bytes → Bool) (offset limit : Int) (reverse : Bool) (tr : Trans) (t : RidOf)
    (hd : (vals.map (·.1)).Nodup) :
    let old := spec (entriesOf ix vals) pre filter offset limit reverse
    let new := spec (entriesOf ix (vput vals id after)) pre filter offset limit reverse
    let a := badgerAnswer ix pre (some filter) (vget vals id) after
    clientApply (transformResult tr t old) (resourceEvent tr t a (transformResult tr t new)) = transformResult tr t new ∧
    clientApply (transformResult tr t old) (queryRequest tr t a (transformResult tr t new)) = transformResult tr t new := by
  intro old new a
  have hs := badger_answer_sound ix vals id after pre filter offset limit reverse hd
  have hnd : old.Nodup := spec_nodup pre filter offset limit reverse (entriesOf_ids_nodup ix vals hd)
  exact ⟨resource_client_coherent tr t a old new hnd hs, query_client_coherent tr t a old new hnd hs⟩

/-! ## non-vacuity -/
example : affectsQuery (⟨[107], fun (v : Bytes) => some v⟩ : Idx Bytes) [97] none (some [97, 98]) (some [98]) = true := by decide

end GoRes.Props.C14
