import GoRes.Model.Pool
import GoRes.Lemmas.Pool
import GoRes.Lemmas.PoolWake
/-! # C02 — callbacks of a group run exactly once, in submission order -/
namespace GoRes.Props.C02
open GoRes.Pool

/-- **order**: the callbacks of a group start in the order they were accepted (enqueued under the
mutex) — across any number of start/stop cycles the started ones are a subsequence … -/
theorem order_preserved (acts : List Act) (s : St) (h : run init acts = some s) (g : Nat) (hg : g ≠ 0) :
    (cbsOf g s.started).Sublist (cbsOf g s.accepted) := by
  have h0 : Ord (view g init) := ⟨[], rfl, List.Sublist.refl _⟩
  obtain ⟨pre, h1, h2⟩ := view_run (A := fun _ => True) hg (fun _ hv => hv.ord) (fun _ _ => trivial) Inv.init h0 h
  simp only [view] at h1 h2
  rw [h1]
  exact h2.trans (List.sublist_append_left _ _)

/-- … and **exactly once, never dropped**: as long as Shutdown has not closed the queue, what was
accepted for a group is exactly what has started followed by what is still pending, in order -/
theorem fifo_exact (acts : List Act) (s : St) (h : run init acts = some s) (hno : Act.closeLock ∉ acts)
    (g : Nat) (hg : g ≠ 0) :
    cbsOf g s.started ++ pendingOf g s = cbsOf g s.accepted :=
  view_run (P := Fifo) hg (fun ha hv => (hv.mono ha).fifo) (fun _ ha e => hno (e ▸ ha)) Inv.init rfl h

/-- never twice: distinct submissions start at most once each (all groups, Parallel included) -/
theorem never_twice (acts : List Act) (s : St) (h : run init acts = some s)
    (hd : (s.accepted.map (·.2)).Nodup) : (s.started.map (·.2)).Nodup :=
  started_nodup (Inv.reachable h) hd

/-- nothing runs that was not accepted -/
theorem started_accepted (acts : List Act) (s : St) (h : run init acts = some s) :
    ∀ x ∈ s.started, x ∈ s.accepted := by
  intro x hx
  have h1 := List.count_pos_iff.mpr hx
  have h2 := (Inv.reachable h).count (· == x)
  rw [← List.count_pos_iff]
  simp only [List.count_eq_countP] at h1 ⊢
  omega

/-- `rwork` registers exactly the groups that have a live work item while the queue is open, so a
submission is never appended to a retired item and nothing is retired while callbacks are pending -/
theorem rwork_exact (acts : List Act) (s : St) (h : run init acts = some s) (hq : s.wq.isSome)
    (g : Nat) (hg : g ≠ 0) : (g ∈ s.rwork ↔ cnt g s = 1) ∧ s.rwork.Nodup := by
  have hI := Inv.reachable h
  obtain ⟨q, hq'⟩ := Option.isSome_iff_exists.mp hq
  exact ⟨hI.mem_rwork_iff hq hg, (hI.core q hq').nodup⟩

/-- **no lost wake-up**: whenever work is queued, some worker is going to look at the queue
(it is idle, signalled or running) or some submitter still owes a `Signal`
(model without the spurious wake-up over-approximation; at least one worker) -/
theorem no_lost_wakeup (acts : List Act) (s : St) (h : run init acts = some s)
    (hn : ∀ n, Act.serve n ∈ acts → 1 ≤ n) (q : List Work) (hq : s.wq = some q) (hne : q ≠ []) :
    (∃ (i : Nat) (ws : WState), s.workers[i]? = some ws ∧ (ws = WState.idle ∨ ws = WState.waiting true ∨ ∃ w c, ws = WState.running w c)) ∨
    (∃ e ∈ s.inflight, e.needSignal = true) := by
  rcases (InvW.run InvW.init h hn).nlw q hq hne with ⟨ws, hws, ha⟩ | he
  · obtain ⟨i, hi⟩ := List.getElem?_of_mem hws
    exact Or.inl ⟨i, ws, hi, ha⟩
  · exact Or.inr he

/-- progress: a worker that looks at a non-empty open queue starts the first queued callback -/
theorem worker_takes_head (s : St) (i : Nat) (w : Work) (f : Nat) (fs : List Nat) (rest : List Work)
    (hq : s.wq = some (⟨w.wid, f :: fs⟩ :: rest)) (hw : s.workers[i]? = some .idle ∨ s.workers[i]? = some (.waiting true)) :
    ∃ s', (step s (.wStart i) = some s' ∨ step s (.wWake i) = some s') ∧
      s'.workers[i]? = some (.running ⟨w.wid, fs⟩ f) ∧ s'.started = s.started ++ [(w.wid, f)] := by
  have hlt : i < s.workers.length := by
    rcases hw with h | h <;> exact (List.getElem?_eq_some_iff.mp h).1
  refine ⟨relook s i, ?_, ?_, ?_⟩
  · exact hw.imp (fun h => (Step.wStart i h).sound) (fun h => (Step.wWake i h).sound)
  · simp [relook_head i hq, hlt]
  · simp [relook_head i hq, startedOf]

/-- **never stuck**: whenever work is queued, a step of the library itself is enabled that leads towards
it — a worker's first look at the queue, its return from `Wait` after a signal, the end of the callback
it is running (after which it looks at the queue again) — or a submitter is about to signal. Together
with `worker_takes_head` this is the progress half of "every accepted callback is started": no reachable
state has queued work and nobody who will ever look at it. -/
theorem never_stuck (acts : List Act) (s : St) (h : run init acts = some s)
    (hn : ∀ n, Act.serve n ∈ acts → 1 ≤ n) (q : List Work) (hq : s.wq = some q) (hne : q ≠ []) :
    (∃ i, (step s (.wStart i)).isSome ∨ (step s (.wWake i)).isSome ∨ (step s (.wDone i)).isSome) ∨
    (∃ e ∈ s.inflight, e.needSignal = true) := by
  rcases no_lost_wakeup acts s h hn q hq hne with ⟨i, ws, hi, hw⟩ | he
  · refine Or.inl ⟨i, ?_⟩
    rcases hw with rfl | rfl | ⟨w, c, rfl⟩
    · exact Or.inl (Option.isSome_of_eq_some (Step.wStart i hi).sound)
    · exact Or.inr (Or.inl (Option.isSome_of_eq_some (Step.wWake i hi).sound))
    · obtain ⟨s', hs⟩ := wDone_enabled hi
      exact Or.inr (Or.inr (Option.isSome_of_eq_some hs.sound))
  · exact Or.inr he

/-- queued work items always hold a callback: the worker never pops an empty item -/
theorem queued_items_nonempty (acts : List Act) (s : St) (h : run init acts = some s) (q : List Work)
    (hq : s.wq = some q) : ∀ w ∈ q, w.pending ≠ [] :=
  QNE.reachable h q hq

/-- **one step to the next callback**: in every reachable state with queued work and a worker that is
going to look (idle, signalled, or finishing its callback), that worker's very next own step starts a
callback — the head of the queue, or the next one of the item it owns -/
theorem next_step_starts_a_callback (acts : List Act) (s : St) (h : run init acts = some s)
    (q : List Work) (hq : s.wq = some q) (hne : q ≠ []) (i : Nat) (ws : WState)
    (hi : s.workers[i]? = some ws)
    (hw : ws = WState.idle ∨ ws = WState.waiting true ∨ ∃ w c, ws = WState.running w c) :
    ∃ a s', (a = Act.wStart i ∨ a = Act.wWake i ∨ a = Act.wDone i) ∧ step s a = some s' ∧
      s'.started.length = s.started.length + 1 := by
  obtain ⟨w0, rest, rfl⟩ := List.exists_cons_of_ne_nil hne
  obtain ⟨f, fs, hf⟩ := List.exists_cons_of_ne_nil (QNE.reachable h _ hq w0 List.mem_cons_self)
  have hq' : s.wq = some (⟨w0.wid, f :: fs⟩ :: rest) := by rw [hq, ← hf]
  rcases hw with rfl | rfl | ⟨w, c, rfl⟩
  · exact ⟨_, _, Or.inl rfl, (Step.wStart i hi).sound, by simp [relook_head i hq', startedOf]⟩
  · exact ⟨_, _, Or.inr (Or.inl rfl), (Step.wWake i hi).sound, by simp [relook_head i hq', startedOf]⟩
  · cases hpw : w.pending with
    | cons g gs =>
      exact ⟨_, _, Or.inr (Or.inr rfl), (Step.doneNext i hi hpw).sound, by simp [next, startedOf]⟩
    | nil =>
      exact ⟨_, _, Or.inr (Or.inr rfl), (Step.doneLast i hi hpw).sound,
        by rw [relook_head (s := finish s i w c) i hq']; simp [finish, startedOf]⟩

/-! ## non-vacuity: a group going idle and busy again keeps its order -/
example : ∃ s, run init [.serve 1, .subCheck 1 7 1 true, .subLock 1, .subSignal 1, .wStart 0, .wDone 0,
    .subCheck 1 7 2 true, .subLock 1, .subSignal 1, .wWake 0] = some s ∧ cbsOf 7 s.started = [1, 2] := by
  refine ⟨_, rfl, ?_⟩; rfl

end GoRes.Props.C02
