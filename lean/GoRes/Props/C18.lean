import GoRes.Model.Codec
import GoRes.Lemmas.Codec
/-! # C18 — values and responses survive the wire between service and client packages

JSON text ⇄ tree is `encoding/json` (trusted; the correspondence run compares the real
marshalled bytes). The theorems are about the library's own code: the byte assembly with
`make`/`copy` at fixed offsets, the classification of values, `Equal`, data-value wrapping
and the classification of responses. -/
namespace GoRes.Props.C18
open GoRes GoRes.Json GoRes.Codec

/-- **reference bytes**: for every string encoding, of every length, `Ref.MarshalJSON`
assembles exactly `{"rid":<enc>}` … -/
theorem ref_bytes (enc : Str) : marshalRef enc = refPrefix ++ enc ++ [125] :=
  closing_brace refPrefix enc

/-- … and `SoftRef.MarshalJSON` exactly `{"rid":<enc>,"soft":true}` -/
theorem softref_bytes (enc : Str) : marshalSoftRef enc = refPrefix ++ enc ++ softRefSuffix := by
  -- the buffer has `len(enc) + 20` bytes: 7 of `refPrefix`, 13 of `softRefSuffix`
  have h : copyAt (copyAt (List.replicate (enc.length + 20) 0) 0 refPrefix) 7 enc = _ :=
    copy_prefix_enc refPrefix enc 13
  simp only [marshalSoftRef, h]
  rw [← List.append_assoc, copyAt_append_left _ _ _ (by simp; omega)]
  rfl

/-- **data value bytes**: objects and arrays are wrapped as `{"data":<enc>}`, everything else
is passed through -/
theorem datavalue_bytes (enc : Str) :
    marshalDataValue enc =
      if enc.head? = some 91 ∨ enc.head? = some 123 then dataPrefix ++ enc ++ [125] else enc := by
  unfold marshalDataValue
  cases enc with
  | nil => simp
  | cons c r =>
    simp only [List.head?_cons, Option.some.injEq]
    split
    · exact closing_brace dataPrefix (c :: r)
    · rfl

def wrap (j : J) : J := if j.isObj || j.isArr then .obj [(b!"data", j)] else j

/-- **data-value round trip**: unmarshalling the marshalled value gives the value back, for
every JSON value -/
theorem datavalue_roundtrip (j : J) : unmarshalDataValue (wrap j) = some j := by
  cases j <;> rfl

/-- arrays are not data values; objects without a `data` member neither -/
theorem datavalue_rejects (items : List J) (ms : List (Str × J)) (h : member ms b!"data" = none) :
    unmarshalDataValue (.arr items) = none ∧ unmarshalDataValue (.obj ms) = none := by
  simp [unmarshalDataValue, h]

/-- numbers as `encoding/json` writes them start with a digit or `-`; what is used of that: not with
`[` or `{` -/
def StartsLikeNumber : J → Prop
  | .num t => ∃ c r, t = c :: r ∧ c ≠ 91 ∧ c ≠ 123
  | _ => True

/-- the marshalled bytes are the rendering of the wrapped tree -/
theorem marshal_is_wrap (j : J) (h : StartsLikeNumber j) : marshalDataValueJ j = render (wrap j) := by
  unfold marshalDataValueJ
  rw [datavalue_bytes]
  cases j with
  | num t =>
    obtain ⟨c, r, rfl, h1, h2⟩ := h
    simp [render, wrap, J.isObj, J.isArr, h1, h2]
  -- every other kind of value starts with a known byte, so both sides compute
  | bool b => cases b <;> rfl
  | _ => rfl

/-- **Equal is an equivalence** … -/
theorem equal_refl (v : Value) : equal v v = true := (equal_iff v v).2 rfl
theorem equal_symm (v w : Value) : equal v w = equal w v :=
  Bool.eq_iff_iff.2 (by rw [equal_iff, equal_iff]; exact eq_comm)
theorem equal_trans (u v w : Value) (h1 : equal u v = true) (h2 : equal v w = true) : equal u w = true :=
  (equal_iff u w).2 (((equal_iff u v).1 h1).trans ((equal_iff v w).1 h2))

/-- … **that implies equality of what the values mean** (type and information-carrying part) -/
theorem equal_sound (v w : Value) (h : equal v w = true) : meaning v = meaning w := (equal_iff v w).1 h

/-- **classification** as the protocol defines it: anything that is not an object or array is a
primitive; arrays are invalid … -/
theorem classify_primitive (j : J) (h : j.isObj = false) (h' : j.isArr = false) :
    classify j = some ⟨.primitive, render j, [], []⟩ := by
  cases j <;> simp [classify, J.isObj, J.isArr] at *
theorem classify_array (items : List J) : classify (.arr items) = none := by
  simp [classify]

/-- … `{"rid":r}` is a reference (soft with `"soft":true`) when `r` is a valid resource id and
invalid otherwise or when mixed with `action`/`data` … -/
theorem classify_reference (r : Str) (soft : Bool) (extra : List (Str × J))
    (hx : ∀ m ∈ extra, m.1 ≠ b!"rid" ∧ m.1 ≠ b!"soft" ∧ m.1 ≠ b!"action" ∧ m.1 ≠ b!"data") :
    (classify (.obj ([(b!"rid", .str r), (b!"soft", .bool soft)] ++ extra))).map (fun v => (v.typ, v.rid)) =
      if r.isEmpty ∨ isValidRIDB r = false then none
      else some (if soft then VType.softReference else VType.reference, r) := by
  have hk (ms : List (Str × J)) {k : Str} (h : ∀ m ∈ extra, m.1 ≠ k) :
      member (ms ++ extra) k = member ms k := by
    rw [member_append, (member_eq_none_iff extra k).2 h, Option.none_or]
  rw [classify_obj, hk _ fun m hm => (hx m hm).1, hk _ fun m hm => (hx m hm).2.1,
    hk _ fun m hm => (hx m hm).2.2.1, hk _ fun m hm => (hx m hm).2.2.2]
  -- the lookups in the two written-out members compute
  show (ofFields _ (some r) soft none none).map _ = _
  cases hr : r.isEmpty <;> cases hv : isValidRIDB r <;> simp [ofFields, hr, hv]
theorem classify_reference_mixed (r : Str) (ms : List (Str × J)) (k : Str) (x : J)
    (hk : k = b!"action" ∨ k = b!"data") (hx : x ≠ .null ∨ k = b!"data")
    (hm : member ((b!"rid", .str r) :: ms ++ [(k, x)]) b!"rid" = some (.str r)) :
    classify (.obj ((b!"rid", .str r) :: ms ++ [(k, x)])) = none := by
  -- `hm`: no later `rid` member overrides the first; `hx`: a `null` action decodes as absent, a `null` data is still there
  have hkx : member ((b!"rid", .str r) :: ms ++ [(k, x)]) k = some x := by
    rw [member_append, member_cons, member_nil, if_pos rfl]; rfl
  rw [classify_obj, hm]
  cases optBool (member _ b!"soft") with
  | none => rfl
  | some soft =>
    rcases hk with rfl | rfl
    · rw [hkx]
      cases x with
      | null => exact absurd rfl (hx.resolve_right (by decide))
      | str a => simp [optStr, ofFields]
      | _ => rfl
    · cases optStr (member _ b!"action") with
      | none => rfl
      | some a => rw [hkx]; simp [optStr, ofFields]

/-- … `{"action":"delete"}` is the delete action, any other action is invalid … -/
theorem classify_delete (a : Str) : (classify (.obj [(b!"action", .str a)])).map (·.typ) =
    if a = b!"delete" then some VType.delete else none := by
  rw [classify_obj]
  show (ofFields _ none false (some a) none).map _ = _
  by_cases h : a = b!"delete" <;> simp [ofFields, h]

/-- … in *any* object (whatever its other members, in whatever order): an action next to a `data`
member is invalid, and so is an action other than `delete` - such an object is never taken for the
data value or the primitive its `data` member would be on its own -/
theorem classify_action_general (ms : List (Str × J)) (a : Str)
    (ha : member ms b!"action" = some (.str a))
    (h : a ≠ b!"delete" ∨ (member ms b!"data").isSome) : classify (.obj ms) = none := by
  rw [classify_obj, ha]
  cases optStr (member ms b!"rid") with
  | none => rfl
  | some rid =>
    cases optBool (member ms b!"soft") with
    | none => rfl
    | some soft =>
      cases rid with
      | some r => simp [optStr, ofFields]
      | none =>
        simp only [optStr, ofFields, ite_eq_left_iff]
        exact fun hn => absurd h.symm hn

example : classify (.obj [(b!"action", .str b!"remove"), (b!"data", .obj [(b!"foo", .num b!"42")])]) = none := by decide

/-- … `{"data":d}` is a data value when `d` is an object or array and the primitive `d` otherwise;
an object with none of the reserved members is invalid -/
theorem classify_data (d : J) : (classify (.obj [(b!"data", d)])).map (fun v => (v.typ, v.inner)) =
    some (if d.isObj || d.isArr then VType.data else VType.primitive, render d) := by
  rw [classify_obj]
  show (ofFields _ none false none (some d)).map _ = _
  cases d <;> rfl
theorem classify_other_object (ms : List (Str × J))
    (h : ∀ m ∈ ms, m.1 ≠ b!"rid" ∧ m.1 ≠ b!"soft" ∧ m.1 ≠ b!"action" ∧ m.1 ≠ b!"data") :
    classify (.obj ms) = none := by
  have h1 := (member_eq_none_iff ms _).2 fun m hm => (h m hm).1
  have h2 := (member_eq_none_iff ms _).2 fun m hm => (h m hm).2.1
  have h3 := (member_eq_none_iff ms _).2 fun m hm => (h m hm).2.2.1
  have h4 := (member_eq_none_iff ms _).2 fun m hm => (h m hm).2.2.2
  rw [classify_obj, h1, h2, h3, h4]; rfl

/-- **a response is exactly one of result, resource or error**, whatever was received -/
theorem response_exactly_one (j : Option J) :
    ([hasError (parseResponse j), hasResource (parseResponse j), hasResult (parseResponse j)].count true) = 1 := by
  generalize parseResponse j = r
  cases r <;> rfl

/-- **what the service publishes is classified as what it is and decodes to the supplied data**:
the three envelopes of `Model/Req.lean` (with or without meta) -/
theorem service_result (v : J) (metaMember : List (Str × J)) (hm : ∀ m ∈ metaMember, m.1 = b!"meta") :
    parseResponse (some (.obj (metaMember ++ [(b!"result", v)]))) = .result (render v) := by
  refine (parseResponse_congr ?_ ?_ ?_).trans (rfl : parseResponse (some (.obj [(b!"result", v)])) = _)
  all_goals rw [member_append, member_eq_none_of_key hm (by decide), Option.or_none]
theorem service_resource (rid : Str) (hne : rid ≠ []) (metaMember : List (Str × J)) (hm : ∀ m ∈ metaMember, m.1 = b!"meta") :
    parseResponse (some (.obj (metaMember ++ [(b!"resource", .obj [(b!"rid", .str rid)])]))) = .resource rid := by
  have h : parseResponse (some (.obj [(b!"resource", .obj [(b!"rid", .str rid)])])) = .resource rid := by
    cases rid with
    | nil => exact absurd rfl hne
    | cons c r => rfl
  refine (parseResponse_congr ?_ ?_ ?_).trans h
  all_goals rw [member_append, member_eq_none_of_key hm (by decide), Option.or_none]
theorem service_error (code msg : Str) (metaMember : List (Str × J)) (hm : ∀ m ∈ metaMember, m.1 = b!"meta") :
    parseResponse (some (.obj ([(b!"error", .obj [(b!"code", .str code), (b!"message", .str msg)])] ++ metaMember))) = .error code := by
  refine (parseResponse_congr ?_ ?_ ?_).trans
    (rfl : parseResponse (some (.obj [(b!"error", .obj [(b!"code", .str code), (b!"message", .str msg)])])) = _)
  all_goals rw [member_append, member_eq_none_of_key hm (by decide), Option.none_or]
theorem invalid_is_internal_error : parseResponse none = .error internalCode ∧ parseResponse (some (.obj [])) = .error internalCode := by
  constructor <;> rfl

/-! ## non-vacuity -/
example : marshalRef b!"\"x.y\"" = b!"{\"rid\":\"x.y\"}" := by decide
example : marshalDataValue b!"[1]" = b!"{\"data\":[1]}" := by decide

end GoRes.Props.C18
