import GoRes.Model.Pattern
import GoRes.Lemmas.Pattern
/-! # C17 — pattern operations agree with one token-wise grammar

Property theorems only (the token-level facts are in `Lemmas/Tok.lean`, `render` against the
tokeniser and `IsValid` in `Lemmas/PatternParse.lean`, the other scanners against the tokens in
`Lemmas/Pattern.lean`).  The statements quantify over *all* token lists / byte strings;
`render` turns a token list into the Go string the implementation sees, so
`«matches» (render pt) (render st)` is literally the model of `Pattern(p).Matches(s)`.  -/
namespace GoRes.Props.C17
open GoRes GoRes.Pattern

/-- Validity is exactly "the tokeniser accepts it": one grammar for `IsValid`. -/
theorem isValid_iff_parse (p : Str) : isValid p = (parse p).isSome :=
  isValid_eq_parse p

/-- every well-formed token list is what the parser reads back from its rendering -/
theorem parse_render (ts : List Tok) (h : wfPat ts = true) (hne : ts ≠ []) : parse (render ts) = some ts := by
  have hmap : (ts.map Tok.render).map parseTok = ts := by
    rw [List.map_map]
    exact (List.map_congr_left fun n hn => parseTok_render (wfPat_all_ok h n hn)).trans (List.map_id' ts)
  simp only [parse, List.isEmpty_iff, render_ne_nil hne h, if_false, splitDots_render hne (wfPat_sOk h),
    hmap, h, if_true]

/-- `Matches` is the token-wise relation, also when the right-hand side is itself a pattern. -/
theorem matches_spec (pt st : List Tok) (hp : wfPat pt = true) (hs : wfPat st = true) :
    «matches» (render pt) (render st) = tokMatches pt st :=
  matches_tok pt st hp hs

/-- `Values` is the token-wise extraction on concrete names. -/
theorem values_spec (pt st : List Tok) (hp : wfPat pt = true) (hs : isName st = true) :
    values (render pt) (render st) = tokValues pt st [] :=
  valuesLoop_spec pt st [] hp (isName_sOk hs)

/-- a valid pattern matches a name exactly when extraction succeeds -/
theorem matches_iff_values (pt st : List Tok) (hp : wfPat pt = true) (hs : isName st = true) :
    «matches» (render pt) (render st) = (values (render pt) (render st)).isSome := by
  rw [matches_spec pt st hp (wfPat_of_isName hs), values_spec pt st hp hs]
  exact tokMatches_eq_tokValues_isSome pt st [] (isName_isLits hs).ne_full

/-- extracted values substituted back give a pattern that still matches the name,
and give the name itself when the pattern has no anonymous wildcard.
(`distinctTags` is what registration demands; with a repeated tag the Go map can
hold only the last value and the law is false — see DESIGN.md.) -/
theorem replace_values_matches (pt st : List Tok) (m : List (Str × Str))
    (hp : wfPat pt = true) (hs : isName st = true) (hd : distinctTags pt = true)
    (hv : values (render pt) (render st) = some m) :
    «matches» (replaceTags (render pt) m) (render st) = true ∧
    (hasAnon pt = false → replaceTags (render pt) m = render st) := by
  rw [values_spec pt st hp hs] at hv
  obtain ⟨i1, i2, i3⟩ := tokValues_subst hp (isName_isLits hs) hd hv
  rw [replaceTags_tok pt m hp]
  refine ⟨?_, fun ha => by rw [i3 ha]⟩
  rw [matches_tok _ st i1 (wfPat_of_isName hs)]
  exact i2

/-- a pattern covers another pattern exactly when every name of the second matches the first -/
theorem covers_iff (pt qt : List Tok) (hp : wfPat pt = true) (hq : wfPat qt = true) (hne : qt ≠ []) :
    «matches» (render pt) (render qt) = true ↔
      ∀ st, isName st = true → «matches» (render qt) (render st) = true → «matches» (render pt) (render st) = true := by
  rw [matches_tok pt qt hp hq]
  constructor
  · intro h st hs h2
    have hw := wfPat_of_isName hs
    rw [matches_tok qt st hq hw] at h2
    rw [matches_tok pt st hp hw]
    exact tokMatches_trans h h2
  · intro h
    cases hm : tokMatches pt qt with
    | true => rfl
    | false =>
      obtain ⟨st, l1, l2, l3⟩ := tokMatches_distinguish hp hq hm
      have hst : st ≠ [] := by
        rintro rfl
        rw [tokMatches_nil_right, List.isEmpty_iff] at l2
        exact hne l2
      have hs := isName_of_isLits l1 hst
      have := h st hs (by rw [matches_tok qt st hq l1.wfPat]; exact l2)
      rw [matches_tok pt st hp l1.wfPat, l3] at this
      exact absurd this (by simp)

/-- byte offset of the first wildcard token of a pattern whose first byte stands at offset `off`,
-1 when it has none -/
def firstWild : List Tok → Nat → Int
  | [], _ => -1
  | .lit s :: r, off => firstWild r (off + s.length + 1)
  | _ :: _, off => off

/-- `IndexWildcard` is the byte offset of the first wildcard token -/
theorem indexWildcard_spec (pt : List Tok) (hp : wfPat pt = true) :
    indexWildcard (render pt) = firstWild pt 0 := by
  have h : ∀ ts off, firstWild ts off = firstWildL ts off := by
    intro ts
    induction ts with
    | nil => intro off; rfl
    | cons t r ih =>
      intro off
      cases t with
      | lit s => exact ih _
      | _ => rfl
  rw [h]
  exact indexWildcardLoop_spec pt 0 hp

/-- validators are consistent: a path is a wildcard-free pattern; a valid name part is a
valid one-token path and a valid resource id; a non-empty path is a valid resource id -/
theorem isValidPath_spec (p : Str) :
    isValidPath p = (p.isEmpty || match parse p with
      | some ts => ts.all (fun t => match t with | .lit _ => true | _ => false)
      | none => false) :=
  isValidPath_eq p

theorem part_is_rid (p : Str) (h : isValidPart p = true) : isValidRID p = true := by
  apply isValidRID_of_parts
  rw [splitDots_noDot (noDot_of_okc ((isValidPart_iff p).1 h).2), List.all_cons, h]; rfl

theorem path_is_rid (p : Str) (h : isValidPath p = true) (hne : p ≠ []) : isValidRID p = true :=
  isValidRID_of_parts (List.all_eq_true.2 fun t ht => isValidPart_of_litOk (isValidPath_lits h hne t ht))

/-- a name (what routing accepts) is a valid resource id -/
theorem name_is_rid (st : List Tok) (hs : isName st = true) : isValidRID (render st) = true := by
  have hl := isName_isLits hs
  apply isValidRID_of_parts
  rw [splitDots_render (isName_ne_nil hs) (isName_sOk hs), List.all_map, List.all_eq_true]
  intro n hn
  obtain ⟨s, rfl, hs⟩ := hl n hn
  exact isValidPart_of_litOk hs

/-- `IDTransformer`: id → resource id (ReplaceTag) → id (the tag's value) is the identity for
every id that is a valid name part -/
theorem id_roundtrip (pt : List Tok) (t id : Str) (hp : wfPat pt = true) (hd : distinctTags pt = true)
    (ht : t ∈ tagsOf pt) (hid : isValidPart id = true) :
    ∃ m, values (render pt) (replaceTag (render pt) t id) = some m ∧ mapGet m t = some id := by
  obtain ⟨hid1, hid2⟩ := (isValidPart_iff id).1 hid
  have hs : ∀ n ∈ pt.map (substTok (fun t' => if t = t' then some id else none)), n.sOk := by
    intro n hn
    obtain ⟨a, ha, rfl⟩ := List.mem_map.1 hn
    have haok := wfPat_sOk hp a ha
    cases a with
    | tag x =>
      by_cases htx : t = x
      · rw [substTok, if_pos htx]
        exact ⟨hid1, noDot_of_okc hid2⟩
      · simpa [substTok, htx] using haok
    | _ => exact haok
  obtain ⟨m, h1, h2⟩ := tokValues_map (substTok fun t' => if t = t' then some id else none)
    (fun _ => rfl) [] hp hd
  refine ⟨m, ?_, by simpa [substTok] using h2 t ht⟩
  unfold replaceTag
  rw [replace_tok _ pt hp]
  exact (valuesLoop_spec pt _ [] hp hs).trans h1

/-! ## non-vacuity: the hypotheses are met by concrete non-trivial inputs -/
-- a=97 b=98 c=99 x=120 '$'=36 '.'=46 '>'=62
example : wfPat [.lit [97], .tag [120], .lit [98, 36, 99], .full] = true := by decide
example : isName [.lit [97], .lit [97, 36, 98]] = true := by decide

-- Go-level behaviour on concrete byte strings
-- "a$b" vs "aXY": a `$` in the middle of a token is an ordinary byte
example : «matches» [97, 36, 98] [97, 88, 89] = false := by decide +kernel
-- "a.$x.>" matches "a.b.c.d"
example : «matches» [97, 46, 36, 120, 46, 62] [97, 46, 98, 46, 99, 46, 100] = true := by
  decide +kernel
-- "a.$x.>" does not match "a.b" (`>` needs at least one token) nor "b.c.d"
example : «matches» [97, 46, 36, 120, 46, 62] [97, 46, 98] = false := by decide +kernel
example : «matches» [97, 46, 36, 120, 46, 62] [98, 46, 99, 46, 100] = false := by decide +kernel
-- "a.$x.b" on "a.c.b" extracts x = "c"
example : values [97, 46, 36, 120, 46, 98] [97, 46, 99, 46, 98] = some [([120], [99])] := by
  decide +kernel
example : isValid [97, 46, 36, 120, 46, 62] = true := by decide
example : isValid [97, 46, 62, 46, 98] = false := by decide        -- "a.>.b"
example : isValid [97, 46, 36, 36] = false := by decide             -- "a.$$": empty tag
example : parse [97, 46, 36, 120, 46, 62] = some [.lit [97], .tag [120], .full] := by decide
example : render [.lit [97], .tag [120], .lit [98, 36, 99], .full]
    = [97, 46, 36, 120, 46, 98, 36, 99, 46, 62] := by decide
example : indexWildcard [97, 98, 46, 36, 120] = 3 := by decide     -- "ab.$x"
example : isValidPath [97, 46, 98, 36] = true := by decide          -- "a.b$"
example : isValidPart [36, 120] = true := by decide                 -- "$x" is a valid id part

-- hypotheses of `matches_spec` / `values_spec` / `matches_iff_values`
example : wfPat [.lit [97], .tag [120], .star, .lit [98]] = true ∧
    isName [.lit [97], .lit [99], .lit [100], .lit [98]] = true ∧
    tokMatches [.lit [97], .tag [120], .star, .lit [98]]
      [.lit [97], .lit [99], .lit [100], .lit [98]] = true := by decide

-- hypotheses of `replace_values_matches`: pattern "a.$x.b", name "a.c.b", m = {x ↦ c};
-- the conclusion is then the concrete statement `ReplaceTags` gives back "a.c.b"
example : replaceTags [97, 46, 36, 120, 46, 98] [([120], [99])] = [97, 46, 99, 46, 98] := by
  have h := replace_values_matches [.lit [97], .tag [120], .lit [98]]
    [.lit [97], .lit [99], .lit [98]] [([120], [99])] (by decide) (by decide) (by decide)
    (by decide +kernel)
  exact h.2 (by decide)

-- hypotheses of `covers_iff`: "a.>" covers "a.$x.*"
example : ∀ st, isName st = true →
    «matches» (render [.lit [97], .tag [120], .star]) (render st) = true →
    «matches» (render [.lit [97], .full]) (render st) = true :=
  (covers_iff [.lit [97], .full] [.lit [97], .tag [120], .star] (by decide) (by decide)
    (by simp)).1 (by decide +kernel)

-- hypotheses of `id_roundtrip`: pattern "a.$x.$y", tag "y", id "$1" (ids may start with `$`)
example : ∃ m, values (render [.lit [97], .tag [120], .tag [121]])
      (replaceTag (render [.lit [97], .tag [120], .tag [121]]) [121] [36, 49]) = some m ∧
    mapGet m [121] = some [36, 49] :=
  id_roundtrip [.lit [97], .tag [120], .tag [121]] [121] [36, 49] (by decide) (by decide)
    (by simp [tagsOf]) (by decide)

-- `distinctTags` cannot be dropped from `replace_values_matches`: with "$x.$x" on "a.b" the
-- map keeps only x ↦ b, and the substituted pattern "b.b" no longer matches "a.b"
example : wfPat [.tag [120], .tag [120]] = true ∧ distinctTags [.tag [120], .tag [120]] = false := by
  decide
example : values [36, 120, 46, 36, 120] [97, 46, 98] = some [([120], [98])] := by decide +kernel
example : «matches» (replaceTags [36, 120, 46, 36, 120] [([120], [98])]) [97, 46, 98] = false := by
  decide +kernel

end GoRes.Props.C17
