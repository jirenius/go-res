import GoRes.Model.Discipline
import GoRes.Lemmas.Discipline
import GoRes.Model.Pool
import GoRes.Lemmas.Pool
import GoRes.Lemmas.PoolWake
/-! # C03 — Shutdown always completes, drains in-flight work, and allows restart
(partial: the model shows that only finitely many steps remain and none is blocked; real-time
bounds, callbacks that never return and the runtime's WaitGroup are outside the model) -/
namespace GoRes.Props.C03
open GoRes.Pool

/-- **closed stays closed**: once `close()` has set the queue to nil, nothing but the next
`Serve` makes it non-nil again — in particular not a submission that passed the state check
before `Shutdown` (it is refused under the lock) -/
theorem closed_stays_closed (s s' : St) (a : Act) (hs : step s a = some s') (hq : s.wq = none)
    (ha : ∀ n, a ≠ .serve n) : s'.wq = none :=
  ((step_Step hs).closed hq ha).1

/-- a stopped service has a nil queue and no live worker -/
theorem stopped_is_quiet (acts : List Act) (s : St) (h : run init acts = some s) (hp : s.phase = .stopped) :
    s.wq = none ∧ s.workers.all (· = .exited) = true :=
  (Inv.reachable h).quiet hp

/-- **drained**: `Shutdown` returns (`shutdownDone`) only when every worker has exited, hence
when no callback is running -/
theorem drained (s s' : St) (hs : step s .shutdownDone = some s') :
    runningNow s = [] ∧ s'.phase = .stopped ∧ runningNow s' = [] := by
  cases step_Step hs with
  | shutdownDone _ _ hw =>
    have : runningNow s = [] := flatMap_of_all_exited rfl hw
    exact ⟨this, rfl, this⟩

/-- **no callback starts afterwards**: once all workers have exited nothing starts until `Serve` -/
theorem no_start_after_exit (s s' : St) (a : Act) (hs : step s a = some s')
    (hw : s.workers.all (· = .exited) = true) (ha : ∀ n, a ≠ .serve n) : s'.started = s.started := by
  cases step_Step hs with
  | serve n => exact absurd rfl (ha n)
  | wStart _ h | wWake _ h | wSpurious _ h | doneNext _ h | doneLast _ h =>
    cases all_exited_getElem? hw h
  | _ => rfl

/-- remaining own steps of a worker until it has exited, once the queue is closed -/
def remaining : WState → Nat
  | .idle => 1
  | .waiting _ => 1
  | .running w _ => w.pending.length + 1
  | .exited => 0

def totalRemaining (s : St) : Nat := (s.workers.map remaining).sum

/-- **bounded exit**: with the queue closed, every own step of a worker strictly decreases the number of
steps the workers still need … -/
theorem own_step_decreases (s s' : St) (i : Nat) (a : Act) (hq : s.wq = none)
    (ha : a = .wStart i ∨ a = .wWake i ∨ a = .wDone i ∨ a = .wSpurious i) (hs : step s a = some s') :
    totalRemaining s' < totalRemaining s := by
  obtain ⟨old, x, hi, hw, hx⟩ := (step_Step hs).own_closed hq ha
  have := sum_map_set remaining s.workers i old x hi
  rw [totalRemaining, totalRemaining, hw]
  rcases hx with ⟨ho, rfl⟩ | ⟨w, cb, f, fs, rfl, hp, rfl⟩
  · have : 0 < remaining old := by
      cases old with
      | exited => exact absurd rfl ho
      | _ => simp [remaining]
    simp only [remaining] at *; omega
  · simp only [remaining, hp, List.length_cons] at this; omega

/-- … no step of anybody increases it … -/
theorem exit_measure_nonincreasing (s s' : St) (a : Act) (hs : step s a = some s') (hq : s.wq = none)
    (ha : ∀ n, a ≠ .serve n) : totalRemaining s' ≤ totalRemaining s := by
  rcases ((step_Step hs).closed hq ha).2 with h | h | ⟨i, hi, h⟩ | ⟨i, h⟩
  · rw [totalRemaining, h]; exact Nat.le_refl _
  · rw [totalRemaining, h, List.map_map]
    exact Nat.le_of_eq (congrArg List.sum (List.map_congr_left fun ws _ => by cases ws <;> rfl))
  · have := sum_map_set remaining s.workers i _ (.waiting true) hi
    rw [totalRemaining, totalRemaining, h]
    simp only [remaining] at this; omega
  · exact Nat.le_of_lt (own_step_decreases s s' i a hq h hs)

/-- … and after the broadcast no worker is blocked: every worker that has not exited has an
enabled step (idle → start, signalled → wake, running → its callback returns), and none ever
waits unsignalled again -/
theorem no_worker_blocked (s : St) (hq : s.wq = none) (hb : ∀ ws ∈ s.workers, ws ≠ .waiting false)
    (i : Nat) (ws : WState) (hi : s.workers[i]? = some ws) (hne : ws ≠ .exited) :
    (∃ s', step s (.wStart i) = some s') ∨ (∃ s', step s (.wWake i) = some s') ∨ (∃ s', step s (.wDone i) = some s') := by
  have _ := hq
  cases ws with
  | idle => exact Or.inl ⟨_, (Step.wStart i hi).sound⟩
  | waiting b =>
    cases b with
    | false => exact absurd rfl (hb _ (List.mem_of_getElem? hi))
    | true => exact Or.inr (Or.inl ⟨_, (Step.wWake i hi).sound⟩)
  | running w c =>
    obtain ⟨s', hs⟩ := wDone_enabled hi
    exact Or.inr (Or.inr ⟨s', hs.sound⟩)
  | exited => exact absurd rfl hne

theorem broadcast_clears_waiting (s s' : St) (hs : step s .closeBroadcast = some s') :
    ∀ ws ∈ s'.workers, ws ≠ .waiting false := by
  cases step_Step hs with
  | closeBroadcast => rw [broadcast_eq]; exact ne_waiting_of_mem_map_bcast

theorem unsignalled_never_returns (s s' : St) (a : Act) (hs : step s a = some s') (hq : s.wq = none)
    (ha : ∀ n, a ≠ .serve n) (hb : ∀ ws ∈ s.workers, ws ≠ .waiting false) :
    ∀ ws ∈ s'.workers, ws ≠ .waiting false := by
  have set : ∀ i x, x ≠ .waiting false → ∀ ws ∈ s.workers.set i x, ws ≠ .waiting false := fun i x hx ws hws =>
    (List.mem_or_eq_of_mem_set hws).elim (hb ws) (fun e => e ▸ hx)
  rcases ((step_Step hs).closed hq ha).2 with h | h | ⟨i, _, h⟩ | ⟨i, h⟩
  · rw [h]; exact hb
  · rw [h]; exact ne_waiting_of_mem_map_bcast
  · rw [h]; exact set i _ (by simp)
  · obtain ⟨old, x, _, hw, hx⟩ := (step_Step hs).own_closed hq h
    rw [hw]
    rcases hx with ⟨_, rfl⟩ | ⟨w, cb, f, fs, _, _, rfl⟩ <;> exact set i _ (by simp)

/-- **restart**: a stopped service can be served again, with a fresh open queue and `n` new workers;
all invariants of C01/C02 are stated for every reachable state, so they hold again after it -/
theorem restart (acts : List Act) (s : St) (h : run init acts = some s) (hp : s.phase = .stopped) (n : Nat) :
    ∃ s', step s (.serve n) = some s' ∧ s'.phase = .started ∧ s'.wq = some [] ∧ s'.rwork = [] ∧
      s'.workers = List.replicate n .idle := by
  have hq := (Inv.reachable h).quiet hp
  exact ⟨served s n, (Step.serve n hp hq.2).sound, rfl, rfl, rfl, rfl⟩

/-! ## start/stop against the source (regenerated on every run)

`Shutdown` clears `nc` and `inCh`.  The model lets `Shutdown` run as soon as the service counts as
started, which in the Go code is *before* `serve` has subscribed: `serve` and `subscribe` must
therefore not read those fields from then on (a `Shutdown` completing in that window used to leave
`Serve` with a nil connection), and the queue state is reset before the first worker is started. -/

open GoRes.Discipline in
theorem serve_does_not_touch_cleared_fields_once_started :
    (Generated.sourceOrder.lookup "Service.serve").map serveOrderOk = some true ∧
    (Generated.sourceOrder.lookup "Service.subscribe").map subscribeOrderOk = some true :=
  serve_order

open GoRes.Discipline in
theorem shutdown_cas_first_stopped_last :
    (Generated.sourceOrder.lookup "Service.Shutdown").map shutdownOrderOk = some true :=
  shutdown_order

/-! ## the window the fix closed, as a concrete schedule: a submission passes the state check,
`Shutdown` closes the queue while a worker is busy, then the submission takes the lock — it is
refused, the worker exits, `Shutdown` completes -/
example : ∃ s, run init [.serve 1, .subCheck 1 7 1 true, .subLock 1, .subSignal 1, .wStart 0,
    .subCheck 2 8 2 true, .shutdownCas, .closeLock, .closeBroadcast, .subLock 2, .wDone 0, .shutdownDone] = some s ∧
    s.phase = .stopped ∧ s.wq = none ∧ s.workers = [.exited] ∧ s.started = [(7, 1)] := by
  refine ⟨_, rfl, ?_⟩; decide

/-! ## the lifecycle state machine, read off the source

`Generated.stateOps` (rewritten from /repo on every run) lists every `sync/atomic` operation on
`Service.state`.  The lifecycle is stopped → starting → started → stopping → stopped, and each move
has one owner: the two transitions that several goroutines may attempt at once (entering `starting`,
entering `stopping`) are compare-and-swap from exactly the state before, so at most one caller wins
and a loser changes nothing ("refused as not stopped / not started"); the other two are plain stores
made by the winner of the preceding compare-and-swap (`serve` publishes `started`; `Shutdown`
publishes `stopped`; a `Serve` that fails before anything was started gives `stopped` back).  Every
other function only loads the state.  A `Swap`, an `Add`, a store from another function, or a
compare-and-swap between other values is not in the table. -/

def stateOpOk (o : String × String × String) : Bool :=
  let (fn, op, args) := o
  if op == "LoadInt32" then true
  else if op == "CompareAndSwapInt32" then
    ((fn == "Service.Serve" || fn == "Service.ListenAndServe") && args == "stateStopped,stateStarting") ||
    (fn == "Service.Shutdown" && args == "stateStarted,stateStopping")
  else if op == "StoreInt32" then
    (fn == "Service.serve" && (args == "stateStarted" || args == "stateStopped")) ||
    (fn == "Service.ListenAndServe" && args == "stateStopped") ||
    (fn == "Service.Shutdown" && args == "stateStopped")
  else false

/-- the first operation of `fn` on the state -/
def firstStateOp (fn : String) : Option (String × String) :=
  (Generated.stateOps.find? (·.1 == fn)).map (·.2)

theorem lifecycle_state_machine :
    Generated.stateOps.all stateOpOk = true ∧
    firstStateOp "Service.Serve" = some ("CompareAndSwapInt32", "stateStopped,stateStarting") ∧
    firstStateOp "Service.ListenAndServe" = some ("CompareAndSwapInt32", "stateStopped,stateStarting") ∧
    firstStateOp "Service.Shutdown" = some ("CompareAndSwapInt32", "stateStarted,stateStopping") ∧
    -- a start that fails before anything runs gives `stopped` back, on both paths
    Generated.stateOps.contains ("Service.ListenAndServe", "StoreInt32", "stateStopped") = true ∧
    Generated.stateOps.contains ("Service.serve", "StoreInt32", "stateStopped") = true ∧
    Generated.stateOps.contains ("Service.serve", "StoreInt32", "stateStarted") = true ∧
    Generated.stateOps.contains ("Service.Shutdown", "StoreInt32", "stateStopped") = true ∧
    -- the functions that act on a running service look at the state (and only look)
    (["Service.runWith", "Service.Reset", "Service.ResetAll", "Service.TokenEvent", "Service.TokenEventWithID", "Service.TokenReset"].all
      fun fn => firstStateOp fn == some ("LoadInt32", "")) = true := by
  decide +kernel

/-- the model's side of the same machine: `Serve` is enabled in the stopped phase only and
`Shutdown` in the started phase only; a refused call leaves the state as it was (there is no step) -/
theorem serve_and_shutdown_refused_elsewhere (s : St) (n : Nat) :
    (s.phase ≠ .stopped → step s (.serve n) = none) ∧ (s.phase ≠ .started → step s .shutdownCas = none) :=
  ⟨fun h => if_neg fun c => h c.1, fun h => if_neg h⟩

/-! ## nothing foreign is called with the service mutex held

`Generated.heldCalls` (rewritten from /repo on every run) lists every call that leaves package res -
a method of another package's value or of an interface (the connection, a subscription, the logger),
a function value (user callbacks), the builtin `close` - made while the service mutex is held, or
held on some paths.  The bounded-time clause of the property rests on this table being what it is:
a worker waits on the condition variable (which releases the mutex) and signs off from the wait
group; nothing else.  In particular the connection is closed, messages are published, loggers and
user callbacks are called, and channels are closed *outside* the mutex: a `Close` that waits for a
delivery goroutine which in turn waits for the mutex cannot deadlock `Shutdown`. -/

def heldCallOk (c : String × String × String) : Bool :=
  (c.1 == "Service.startWorker" && c.2.1 == "s.workcond.Wait" && c.2.2 == "L") ||
  (c.1 == "Service.startWorker" && c.2.1 == "s.wg.Done")

theorem nothing_foreign_under_the_mutex :
    Generated.heldCalls.all heldCallOk = true ∧
    -- the worker does wait with the mutex held (`Wait` must be called that way)
    Generated.heldCalls.contains ("Service.startWorker", "s.workcond.Wait", "L") = true := by
  decide +kernel

end GoRes.Props.C03
