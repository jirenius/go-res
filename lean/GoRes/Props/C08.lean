import GoRes.Model.Req
import GoRes.Lemmas.Req
import GoRes.Generated.Facts
import GoRes.Generated.Access
/-! # C08 — events apply, publish and notify in order; failed applies publish nothing -/
namespace GoRes.Props.C08
open GoRes GoRes.Req

/-- the effects an action adds to the log -/
def delta (cfg : HCfg) (r : ReqIn) (s : St) (a : Action) : List Eff :=
  (stepSt (act cfg r s a)).effs.drop s.effs.length

/-- the log only grows: what happened stays, in order (program order of one callback) -/
theorem act_extends (cfg : HCfg) (r : ReqIn) (s : St) (a : Action) :
    (stepSt (act cfg r s a)).effs = s.effs ++ delta cfg r s a := by
  obtain ⟨d, hd⟩ := (act_next cfg r s a).extends
  rw [delta, hd, List.drop_left]

/-- **program order**: the effects of a script are the concatenation of its steps' effects, in
order, up to the first panic -/
theorem script_extends (cfg : HCfg) (r : ReqIn) (s : St) (script : List Action) :
    ∃ d, (stepSt (runScript cfg r s script)).effs = s.effs ++ d :=
  (runScript_prefix cfg r s script).imp fun _ => Eq.symm

theorem script_cons (cfg : HCfg) (r : ReqIn) (s s' : St) (a : Action) (rest : List Action)
    (h : act cfg r s a = .cont s') :
    runScript cfg r s (a :: rest) = runScript cfg r s' rest := by
  simp [runScript, h]

/-- the shape of one event: `[apply?] ++ [publish] ++ listeners` -/
def eventShape (ap : Apply) (kind : String) (subj payload : Str) (ls : List Eff) : List Eff :=
  (if ap = .absent then [] else [.apply kind]) ++ [.pub subj payload] ++ ls

/-- **change**: apply, then publish, then the listeners in registration order … -/
theorem change_ok (cfg : HCfg) (r : ReqIn) (s : St) (props : List (Str × JV))
    (h1 : cfg.typ ≠ 2) (h2 : props ≠ []) (h3 : cfg.applyChange = .ok ∨ cfg.applyChange = .absent)
    (h4 : ∀ kv ∈ props, kv.2.ok = true) :
    ∃ payload, delta cfg r s (.change props) =
      eventShape cfg.applyChange "change" (evSubj r (b!"change")) payload (listenersOf cfg (b!"change")) := by
  have h5 : props.all (·.2.ok) = true := List.all_eq_true.2 h4
  have h6 : cfg.applyChange ≠ .okEmpty ∧ cfg.applyChange ≠ .err := by rcases h3 with h | h <;> simp [h]
  rw [delta, drop_of_addAll (act_change ..), if_neg h1, if_neg (by simpa using h2), if_neg h6.1, h5, fired_of_ne_err h6.2]
  exact ⟨_, rfl⟩

/-- … a failing apply handler, or one that reports that nothing changes, publishes nothing and
runs no listener … -/
theorem change_apply_failed (cfg : HCfg) (r : ReqIn) (s : St) (props : List (Str × JV))
    (h1 : cfg.typ ≠ 2) (h2 : props ≠ []) (h3 : cfg.applyChange = .err ∨ cfg.applyChange = .okEmpty) :
    delta cfg r s (.change props) = [.apply "change"] := by
  rw [delta, drop_of_addAll (act_change ..), if_neg h1, if_neg (by simpa using h2)]
  rcases h3 with h | h
  · rw [if_neg (by simp [h]), fired_of_err h]
  · rw [if_pos h]

/-- … and an invalid call (wrong resource type, empty change) has no effect at all -/
theorem change_invalid (cfg : HCfg) (r : ReqIn) (s : St) (props : List (Str × JV))
    (h : cfg.typ = 2 ∨ props = []) : delta cfg r s (.change props) = [] := by
  rw [delta, drop_of_addAll (act_change ..)]
  rcases h with h | h <;> simp [h]

theorem add_ok (cfg : HCfg) (r : ReqIn) (s : St) (v : JV) (idx : Int)
    (h1 : cfg.typ ≠ 1) (h2 : 0 ≤ idx) (h3 : cfg.applyAdd ≠ .err) (h4 : v.ok = true) :
    ∃ payload, delta cfg r s (.add v idx) =
      eventShape cfg.applyAdd "add" (evSubj r (b!"add")) payload (listenersOf cfg (b!"add")) := by
  rw [delta, drop_of_addAll (act_add ..), if_neg h1, if_neg (by omega), h4, fired_of_ne_err h3]
  exact ⟨_, rfl⟩

theorem add_failed_or_invalid (cfg : HCfg) (r : ReqIn) (s : St) (v : JV) (idx : Int) :
    (cfg.typ = 1 ∨ idx < 0 → delta cfg r s (.add v idx) = []) ∧
    (cfg.typ ≠ 1 → 0 ≤ idx → cfg.applyAdd = .err → delta cfg r s (.add v idx) = [.apply "add"]) := by
  rw [delta, drop_of_addAll (act_add ..)]
  refine ⟨?_, fun h1 h2 h3 => by rw [if_neg h1, if_neg (by omega), fired_of_err h3]⟩
  rintro (h | h) <;> simp [h]

theorem remove_ok (cfg : HCfg) (r : ReqIn) (s : St) (idx : Int)
    (h1 : cfg.typ ≠ 1) (h2 : 0 ≤ idx) (h3 : cfg.applyRemove ≠ .err) :
    ∃ payload, delta cfg r s (.remove idx) =
      eventShape cfg.applyRemove "remove" (evSubj r (b!"remove")) payload (listenersOf cfg (b!"remove")) := by
  rw [delta, drop_of_addAll (act_remove ..), if_neg h1, if_neg (by omega), fired_of_ne_err h3]
  exact ⟨_, rfl⟩

theorem remove_failed_or_invalid (cfg : HCfg) (r : ReqIn) (s : St) (idx : Int) :
    (cfg.typ = 1 ∨ idx < 0 → delta cfg r s (.remove idx) = []) ∧
    (cfg.typ ≠ 1 → 0 ≤ idx → cfg.applyRemove = .err → delta cfg r s (.remove idx) = [.apply "remove"]) := by
  rw [delta, drop_of_addAll (act_remove ..)]
  refine ⟨?_, fun h1 h2 h3 => by rw [if_neg h1, if_neg (by omega), fired_of_err h3]⟩
  rintro (h | h) <;> simp [h]

theorem create_delete_ok (cfg : HCfg) (r : ReqIn) (s : St) (v : JV) :
    (cfg.applyCreate ≠ .err → delta cfg r s (.create v) =
      eventShape cfg.applyCreate "create" (evSubj r (b!"create")) [] (listenersOf cfg (b!"create"))) ∧
    (cfg.applyDelete ≠ .err → delta cfg r s .delete =
      eventShape cfg.applyDelete "delete" (evSubj r (b!"delete")) [] (listenersOf cfg (b!"delete"))) ∧
    (cfg.applyCreate = .err → delta cfg r s (.create v) = [.apply "create"]) ∧
    (cfg.applyDelete = .err → delta cfg r s .delete = [.apply "delete"]) := by
  rw [delta, delta, drop_of_addAll (act_create ..), drop_of_addAll (act_delete ..)]
  exact ⟨fired_of_ne_err, fired_of_ne_err, fired_of_err, fired_of_err⟩

/-- custom events: a reserved or malformed name has no effect; otherwise publish then listeners -/
theorem custom_event (cfg : HCfg) (r : ReqIn) (s : St) (name : Str) (payload : Option JV) :
    (name ∈ reserved ∨ isValidPartB name = false → delta cfg r s (.custom name payload) = []) ∧
    (name ∉ reserved → isValidPartB name = true → (∀ v, payload = some v → v.ok = true) →
      ∃ pl, delta cfg r s (.custom name payload) = [.pub (evSubj r name) pl] ++ listenersOf cfg name) := by
  rw [delta, drop_of_addAll (act_custom ..)]
  refine ⟨?_, fun h1 h2 h3 => ?_⟩
  · rintro (h | h) <;> simp [h]
  · cases payload with
    | none => exact ⟨[], by simp [h1, h2, pubEffs]⟩
    | some v => exact ⟨v.text, by simp [h1, h2, pubEffs, h3 v rfl]⟩

/-- listeners receive the event name of the event that was published just before them, in
registration order -/
theorem listeners_in_order (cfg : HCfg) (name : Str) :
    listenersOf cfg name = (List.range cfg.listeners).map (fun i => Eff.listener i name) := by
  rfl

/-- the reserved event names of the model are exactly the ones `Resource.Event` refuses in the
current source (regenerated on every run) -/
theorem reserved_names_match : Generated.reservedEvents = reserved := by
  decide +kernel

/-- the order of the effects in an event method, as the model assumes it: the apply handler is called
(at most once) before the single publish, the single listener loop follows the publish, and no
`return` or `panic` sits between or after them -/
def orderOk (xs : List String) : Bool :=
  let tail := xs.dropWhile (fun x => x == "panic" || x == "return")
  let tail := if tail.head? == some "apply" then (tail.drop 1).dropWhile (fun x => x == "panic" || x == "return") else tail
  tail == ["publish", "listeners"] && xs.count "apply" ≤ 1

/-- In the source of every event method the effects appear in the order the model assumes —
re-proved against the statement order extracted from resource.go on every run
(`Generated/Access.lean`). -/
theorem order_table :
    ["resource.Event", "resource.ChangeEvent", "resource.AddEvent", "resource.RemoveEvent",
     "resource.CreateEvent", "resource.DeleteEvent"].all
      (fun m => (Generated.eventOrder.lookup m).map orderOk == some true) = true := by
  decide +kernel

/-- only `Event` has no apply handler; the five resource events call theirs before publishing -/
theorem apply_before_publish :
    ["resource.ChangeEvent", "resource.AddEvent", "resource.RemoveEvent", "resource.CreateEvent",
     "resource.DeleteEvent"].all
      (fun m => match Generated.eventOrder.lookup m with
        | some xs => (xs.takeWhile (· != "publish")).contains "apply"
        | none => false) = true := by
  decide +kernel

/-! ## non-vacuity -/
example : orderOk ["panic", "apply", "panic", "listeners", "publish"] = false ∧
    orderOk ["apply", "panic", "publish", "return", "listeners"] = false := by decide +kernel

example : eventShape .ok "add" [1] [2] [.listener 0 [3]] = [.apply "add", .pub [1] [2], .listener 0 [3]] := rfl

end GoRes.Props.C08
