import GoRes.Model.Legacy
import GoRes.Lemmas.Legacy
/-! # C20 — legacy BadgerDB middleware serves the fold of the events it applied

`apply cfg stored ev` is the model of one event call on a resource using the deprecated
middleware (both packages; `cfg.strictDelete` is the one place where they differ).  The value
served by get and by `Value` is `served cfg stored`, a function of the committed database
value only — which is why it is the same after the database is reopened. -/
namespace GoRes.Props.C20
open GoRes GoRes.Legacy

/-- **an event that cannot be applied is inert**: it publishes nothing, runs no listener and
leaves the storage unchanged (index out of range, create on an existing resource, change or
remove on a missing resource without default, wrong resource type, negative index) -/
theorem failed_apply_inert (cfg : Cfg) (s : Option LVal) (e : Ev) (h : (apply cfg s e).2.failed = true) :
    (apply cfg s e).1 = s ∧ (apply cfg s e).2.published = false := by
  rcases apply_published_or_inert cfg s e with h' | h'
  · rw [h'.2] at h; cases h
  · exact h'.symm

theorem unpublished_inert (cfg : Cfg) (s : Option LVal) (e : Ev) (h : (apply cfg s e).2.published = false) :
    (apply cfg s e).1 = s := by
  rcases apply_published_or_inert cfg s e with h' | h'
  · rw [h'.1] at h; cases h
  · exact h'.2

theorem index_out_of_range (cfg : Cfg) (s : Option LVal) (l : List Str) (v : Str) (idx : Int)
    (hm : cfg.isModel = false) (hs : served cfg s = some (.coll l)) :
    ((l.length : Int) < idx → (apply cfg s (.add v idx)).2.failed = true) ∧
    ((l.length : Int) ≤ idx → (apply cfg s (.remove idx)).2.failed = true) := by
  constructor
  · intro hlt
    have h0 : ¬ idx < 0 := by omega
    have h1 : l.length < idx.toNat := by omega
    simp [apply, hm, hs, h0, h1, Legacy.failure]
  · intro hle
    have h0 : ¬ idx < 0 := by omega
    have h1 : l.length ≤ idx.toNat := by omega
    simp [apply, hm, hs, h0, h1, Legacy.failure]

theorem create_existing_fails (cfg : Cfg) (s : Option LVal) (v : LVal) (h : (served cfg s).isSome) :
    (apply cfg s (.create v)).2.failed = true := by
  have : s.isSome ∨ cfg.dflt.isSome := by
    cases s with
    | some x => exact .inl rfl
    | none => exact .inr h
  simp only [apply, if_pos this, Legacy.failure]

theorem change_missing_fails (cfg : Cfg) (props : List (Str × Option Str)) (hm : cfg.isModel = true)
    (hd : cfg.dflt = none) (hp : props ≠ []) : (apply cfg none (.change props)).2.failed = true := by
  have hp' : props.isEmpty = false := by cases props <;> simp_all
  simp [apply, hm, hp', served, hd, Legacy.failure]

def succeeded (cfg : Cfg) : Option LVal → List Ev → List Ev
  | _, [] => []
  | s, e :: es => if (apply cfg s e).2.published then e :: succeeded cfg (apply cfg s e).1 es else succeeded cfg s es

/-- **the served value is the fold of the applied events**: failed and silent events can be dropped
from a history without changing what is served -/
theorem served_is_fold (cfg : Cfg) (s : Option LVal) (evs : List Ev) :
    fold cfg s evs = fold cfg s (succeeded cfg s evs) := by
  induction evs generalizing s with
  | nil => rfl
  | cons e es ih =>
    simp only [succeeded]
    split
    · simp only [fold]; exact ih _
    · next hp =>
      have hp' : (apply cfg s e).2.published = false := by simpa using hp
      simp only [fold]
      rw [unpublished_inert cfg s e hp']
      exact ih _

/-- a successful change sets exactly the given keys (delete actions remove them) and keeps the others … -/
theorem change_applies (cfg : Cfg) (s : Option LVal) (m : List (Str × Str)) (props : List (Str × Option Str))
    (hm : cfg.isModel = true) (hs : served cfg s = some (.model m)) (hk : (props.map (·.1)).Nodup)
    (hpub : (apply cfg s (.change props)).2.published = true) :
    ∃ m', (apply cfg s (.change props)).1 = some (.model m') ∧
      ∀ k, mget m' k = (match props.find? (·.1 == k) with | some (_, v) => v | none => mget m k) := by
  rw [apply_change hm hs] at hpub ⊢
  split at hpub
  · cases hpub
  · next h =>
    rw [if_neg h]
    refine ⟨_, rfl, fun k => ?_⟩
    rw [mget_applyChange props m hk k, Assoc.get]
    cases props.find? (·.1 == k) <;> rfl

/-- … **and the old values handed to the listeners are exactly the previous stored values** of the keys
that changed (`none` = the key did not exist) -/
theorem old_values_exact (cfg : Cfg) (s : Option LVal) (m : List (Str × Str)) (props : List (Str × Option Str))
    (hm : cfg.isModel = true) (hs : served cfg s = some (.model m)) (hk : (props.map (·.1)).Nodup) (hmk : (m.map (·.1)).Nodup)
    (k : Str) (ov : Option Str) (h : (k, ov) ∈ (apply cfg s (.change props)).2.old) :
    ov = mget m k ∧ (∃ v, (k, v) ∈ props ∧ v ≠ mget m k) := by
  have _ := hmk   -- not needed: `mget`/`mset`/`mdel` are consistent on models with repeated keys too
  rw [apply_change hm hs] at h
  split at h
  · cases h
  · exact mem_applyChange_rev hk h

/-- a change that changes nothing publishes nothing -/
theorem change_nothing_silent (cfg : Cfg) (s : Option LVal) (m : List (Str × Str)) (props : List (Str × Option Str))
    (hm : cfg.isModel = true) (hs : served cfg s = some (.model m))
    (hsame : ∀ kv ∈ props, kv.2 = mget m kv.1) :
    (apply cfg s (.change props)).2.published = false := by
  rw [apply_change hm hs, applyChange_same props m hsame]
  rfl

/-- **the data handed to listeners of a delete event is exactly the previous stored value** -/
theorem delete_data_exact (cfg : Cfg) (s : Option LVal) (h : (apply cfg s .delete).2.published = true) :
    (apply cfg s .delete).2.data = s ∧ (apply cfg s .delete).1 = none := by
  simp only [apply] at h ⊢
  split
  · next hc => simp [hc, Legacy.failure] at h
  · exact ⟨rfl, rfl⟩

/-- add and remove act on the served collection as list insertion and deletion -/
theorem add_remove_apply (cfg : Cfg) (s : Option LVal) (l : List Str) (v : Str) (i : Nat)
    (hm : cfg.isModel = false) (hs : served cfg s = some (.coll l)) :
    (i ≤ l.length → (apply cfg s (.add v i)).1 = some (.coll (l.insertIdx i v))) ∧
    (i < l.length → (apply cfg s (.remove i)).1 = some (.coll (l.eraseIdx i))) := by
  constructor
  · intro hi
    have h1 : ¬ l.length < i := by omega
    have h0 : ¬ (i : Int) < 0 := by omega
    simp [apply, hm, hs, h1, h0]
  · intro hi
    have h1 : ¬ l.length ≤ i := by omega
    have h0 : ¬ (i : Int) < 0 := by omega
    simp [apply, hm, hs, h1, h0]

/-! ## non-vacuity -/
example : (apply ⟨true, none, false⟩ (some (.model [([97], [49])])) (.change [([97], some [50]), ([98], none)])).2.old = [([97], some [49])] := by decide

end GoRes.Props.C20
