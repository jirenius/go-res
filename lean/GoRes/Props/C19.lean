import GoRes.Model.SendReq
import GoRes.Lemmas.SendReq
/-! # C19 — SendRequest returns the first real response within the extended deadline
(partial: the `select` loop is modelled as a function of the timed message history; scheduler
latency, timer resolution and the tie "message exactly at the deadline" are outside the model) -/
namespace GoRes.Props.C19
open GoRes GoRes.SendReq

/-- the deadline after the messages `pre` have all been handled in time without producing a
response (`none`: the request has timed out or returned on the way) -/
def deadlineAfter : Int → List (Int × Str) → Option Int
  | dl, [] => some dl
  | dl, (t, d) :: rest =>
    if t ≥ dl then none
    else match classify d with
      | .response _ => none
      | .extend ms => deadlineAfter (t + ms) rest
      | .ignored => deadlineAfter dl rest

theorem deadlineAfter_late (dl t : Int) (d : Str) (rest : List (Int × Str)) (h : t ≥ dl) :
    deadlineAfter dl ((t, d) :: rest) = none := by
  simp [deadlineAfter, h]

theorem deadlineAfter_response (dl t : Int) (d : Str) (rest : List (Int × Str))
    (hr : isResponse d = true) : deadlineAfter dl ((t, d) :: rest) = none := by
  by_cases h : t ≥ dl
  · exact deadlineAfter_late _ _ _ _ h
  · simp [deadlineAfter, h, classify_of_isResponse hr]

theorem deadlineAfter_extend (dl t ms : Int) (d : Str) (rest : List (Int × Str)) (ht : t < dl)
    (hc : classify d = .extend ms) : deadlineAfter dl ((t, d) :: rest) = deadlineAfter (t + ms) rest := by
  simp [deadlineAfter, Int.not_le.2 ht, hc]

theorem deadlineAfter_ignored (dl t : Int) (d : Str) (rest : List (Int × Str)) (ht : t < dl)
    (hc : classify d = .ignored) : deadlineAfter dl ((t, d) :: rest) = deadlineAfter dl rest := by
  simp [deadlineAfter, Int.not_le.2 ht, hc]

/-- `extensions_reported` below is stated with the same `match`.  Lean names the matcher of a `match` after
the first declaration of the module that uses it, so that statement, elaborated, mentions
`extensions_reported_gen.match_1`: it changes if this theorem is renamed or is not the first to use the
`match`. -/
theorem extensions_reported_gen (dl0 : Int) (pre : List (Int × Str)) (dl : Int) (h : deadlineAfter dl0 pre = some dl)
    (exts : List Int) (rest : List (Int × Str)) :
    loop dl0 exts (pre ++ rest) =
      loop dl (exts ++ pre.filterMap (fun m => match classify m.2 with | .extend ms => some ms | _ => none)) rest := by
  fun_induction deadlineAfter dl0 pre generalizing exts with
  | case1 dl0 => cases h; simp
  | case2 | case3 => cases h
  | case4 dl0 t d pre ht ms hc ih => simp [loop, ht, hc, ih h]
  | case5 dl0 t d pre ht hc ih => simp [loop, ht, hc, ih h]

theorem loop_timeout_or_response (dl0 : Int) (exts : List Int) (hist : List (Int × Str)) :
    (loop dl0 exts hist).1 = .timeout ∨
      ∃ pre t d later dl, hist = pre ++ (t, d) :: later ∧ deadlineAfter dl0 pre = some dl ∧ t < dl ∧
        isResponse d = true := by
  fun_induction loop dl0 exts hist with
  | case1 | case2 => exact .inl rfl
  | case3 dl0 exts t d rest ht d' hc =>
    exact .inr ⟨[], t, d, rest, dl0, rfl, rfl, by omega, (classify_response hc).2⟩
  | case4 dl0 exts t d rest ht ms hc ih | case5 dl0 exts t d rest ht hc ih =>
    refine ih.imp id fun ⟨pre, t', d', later, dl, h1, h2, h3⟩ =>
      ⟨(t, d) :: pre, t', d', later, dl, by rw [h1]; rfl, ?_, h3⟩
    simpa [deadlineAfter, ht, hc] using h2

/-- **first real response**: the first message that is not a pre-response and arrives before the
current (possibly extended) deadline is what is returned — whatever comes later is ignored -/
theorem first_real_response (timeout : Int) (pre : List (Int × Str)) (t : Int) (d : Str) (later : List (Int × Str))
    (dl : Int) (hpre : deadlineAfter timeout pre = some dl) (ht : t < dl) (hd : isResponse d = true) :
    (loop timeout [] (pre ++ (t, d) :: later)).1 = .response d := by
  rw [extensions_reported_gen _ _ _ hpre, loop_response _ _ _ _ _ ht hd]

/-- **each timeout pre-response restarts the deadline with the announced duration** and notifies
the extension callbacks with it -/
theorem extension_restarts (deadline : Int) (exts : List Int) (t ms : Int) (d : Str) (rest : List (Int × Str))
    (ht : t < deadline) (hc : classify d = .extend ms) :
    loop deadline exts ((t, d) :: rest) = loop (t + ms) (exts ++ [ms]) rest :=
  loop_extend deadline exts t ms d rest ht hc

/-- other pre-responses (no `timeout` key, or not a number) change nothing -/
theorem other_pre_ignored (deadline : Int) (exts : List Int) (t : Int) (d : Str) (rest : List (Int × Str))
    (ht : t < deadline) (hc : classify d = .ignored) :
    loop deadline exts ((t, d) :: rest) = loop deadline exts rest :=
  loop_ignored deadline exts t d rest ht hc

/-- **timeout exactly when no response arrives before the current deadline** -/
theorem timeout_iff (timeout : Int) (hist : List (Int × Str)) :
    (loop timeout [] hist).1 = .timeout ↔
      ¬ ∃ pre t d later dl, hist = pre ++ (t, d) :: later ∧ deadlineAfter timeout pre = some dl ∧ t < dl ∧ isResponse d = true := by
  constructor
  · rintro h ⟨pre, t, d, later, dl, rfl, h2, h3, h4⟩
    rw [first_real_response timeout pre t d later dl h2 h3 h4] at h
    cases h
  · exact (loop_timeout_or_response timeout [] hist).resolve_right

/-- the callbacks are told exactly the durations of the extensions that took effect, in order -/
theorem extensions_reported (timeout : Int) (pre : List (Int × Str)) (dl : Int) (h : deadlineAfter timeout pre = some dl) :
    (loop timeout [] pre).2 = pre.filterMap (fun m => match classify m.2 with | .extend ms => some ms | _ => none) := by
  simpa [loop] using congrArg Prod.snd (extensions_reported_gen _ _ _ h [] [])

/-- **marshal, subscribe and publish failures are internal errors returned without waiting**
(no message of the history is looked at, no callback runs) -/
theorem failures_immediate (s : Setup) (hist : List (Int × Str))
    (h : s.marshalOk = false ∨ s.subscribeOk = false ∨ s.publishOk = false) :
    (sendRequest s hist).outcome = .internalError ∧ (sendRequest s hist).extensions = [] := by
  rcases h with h | h | h
  · simp [sendRequest, h]
  · cases hm : s.marshalOk <;> simp [sendRequest, h, hm]
  · cases hm : s.marshalOk <;> cases hs : s.subscribeOk <;> simp [sendRequest, h, hm, hs]

/-- **on every return path the inbox subscription is released** -/
theorem unsubscribed_on_every_path (s : Setup) (hist : List (Int × Str)) :
    (sendRequest s hist).subscribed = true → (sendRequest s hist).unsubscribed = true := by
  unfold sendRequest
  cases s.marshalOk <;> cases s.subscribeOk <;> cases s.publishOk <;> simp

/-- **pre-response recognition**: a message is a (final) response iff it is empty or does not
start with a letter; `timeout:"<digits>"` is an extension by that many milliseconds -/
theorem response_iff_not_letter (c : Nat) (r : Str) (hc : c < 256) :
    isResponse (c :: r) = !((65 ≤ c && c ≤ 90) || (97 ≤ c && c ≤ 122)) := by
  rw [isResponse_cons]
  -- `(c ||| 32) ∉ ['a','z']` iff `c` is not an ASCII letter: a sweep over the byte values
  revert c
  decide +kernel

theorem empty_is_response : isResponse [] = true := by
  rfl

theorem timeout_pre_response (digits : Str) (hne : digits ≠ []) (hd : ∀ c ∈ digits, 48 ≤ c ∧ c ≤ 57) (hlen : digits.length ≤ 18) :
    ∃ ms : Int, 0 ≤ ms ∧ classify (b!"timeout:\"" ++ digits ++ [34]) = .extend ms := by
  have hd' : ∀ c ∈ digits, c ≠ 34 ∧ c ≠ 92 := by
    intro c hc; have := hd c hc; omega
  refine ⟨((digits.foldl (fun acc c => acc * 10 + (c - 48)) 0 : Nat) : Int), Int.natCast_nonneg _, ?_⟩
  have hnr : isResponse (b!"timeout:\"" ++ digits ++ [34]) = false := by
    simp [isResponse]
  unfold classify
  rw [hnr, tagLookup_timeout _ digits hd']
  simp [atoi_digits digits hne hd hlen]

/-! ## non-vacuity -/
-- timeout 100; at 30 `timeout:"200"`, at 150 a response: returned, although 150 > 100
example : sendRequest ⟨true, true, true, 100⟩ [(30, b!"timeout:\"200\""), (150, b!"{\"result\":1}"), (160, b!"{\"result\":2}")] =
    ⟨.response b!"{\"result\":1}", [200], true, true⟩ := by decide

end GoRes.Props.C19
