import GoRes.Lemmas.GetReq
import GoRes.Model.Req
import GoRes.Lemmas.Req
/-! # C04 — every request gets exactly one response, whatever the handler does

`process cfg r script` is the model of `processRequest`/`executeHandler` for one
request; a handler is an arbitrary script. -/
namespace GoRes.Props.C04
open GoRes GoRes.Req

/-- **exactly one response** for every handler configuration, request, payload and script —
replies, double replies, no reply, panics of any kind before or after replying, events,
timeouts, unmarshalable values — unless the request is an access request to a pattern
registered without access handler -/
theorem one_response (cfg : HCfg) (r : ReqIn) (script : List Action) (h : ¬ Unanswered cfg r) :
    (responses (process cfg r script)).length = 1 := by
  rcases process_log cfg r script with ⟨hu, _⟩ | ⟨_, hl⟩
  · exact absurd hu h
  · exact hl.responses_length

/-- … and that one stays unanswered (no response, no effect at all) -/
theorem unanswered_silent (cfg : HCfg) (r : ReqIn) (script : List Action) (h : Unanswered cfg r) :
    process cfg r script = [] := by
  rcases process_log cfg r script with ⟨_, he⟩ | ⟨hu, _⟩
  · exact he
  · exact absurd h hu

/-- at no point of the execution have two responses been published (the second reply attempt
panics inside the library and the recover arm publishes nothing more) -/
theorem never_two_responses (cfg : HCfg) (r : ReqIn) (script : List Action) (k : Nat) :
    (responses ((process cfg r script).take k)).length ≤ 1 := by
  have hle : (responses (process cfg r script)).length ≤ 1 := by
    rcases process_log cfg r script with ⟨_, he⟩ | ⟨_, hl⟩
    · rw [he]; exact Nat.zero_le 1
    · exact Nat.le_of_eq hl.responses_length
  exact Nat.le_trans ((List.take_sublist k _).filterMap _).length_le hle

/-- once replied, a script step never publishes another response (whatever it is) -/
theorem act_after_reply (cfg : HCfg) (r : ReqIn) (s : St) (a : Action) (hr : s.replied = true) :
    responses (stepSt (act cfg r s a)).effs = responses s.effs ∧ (stepSt (act cfg r s a)).replied = true :=
  (act_next cfg r s a).after_reply hr

/-- a panic of any kind in the handler is absorbed: the effects of the request are the effects
up to the panic plus at most the error response -/
theorem panic_absorbed (cfg : HCfg) (r : ReqIn) (s : St) (p : PanicV) :
    (recoverArm s p).effs = s.effs ∨ ∃ payload, (recoverArm s p).effs = s.effs ++ [.pub replySubj payload] := by
  have _ := cfg; have _ := r
  unfold recoverArm
  split
  · exact .inl rfl
  · cases p <;> exact .inr ⟨_, rfl⟩

/-! ## non-vacuity -/
def cfg0 : HCfg := ⟨true, true, true, [[109]], [], 1, .absent, .absent, .absent, .absent, .absent, 0, []⟩
def req0 : ReqIn := ⟨.call, [97], [110, 101, 119], true, [], .ok, [], false, none, none, []⟩
example : ¬ Unanswered cfg0 req0 := by simp [Unanswered, req0]

/-! ## `Resource.Value()` inside a handler (`getrequest.go`, `Model/GetReq.lean`)

A handler may call `r.Value()`, which runs the resource's Get handler on an in-memory request.
Whatever that Get handler does — replies once, twice, not at all, panics with any value before or
after replying, calls `Value()` itself — `Value()` returns normally with a result decided by the first
action that replies or panics, so the outer request is answered exactly as if `Value()` were a plain
function call (the theorems above then apply to the outer handler's script). -/

open GoRes.GetReq in
/-- **the first reply (or panic) of the Get handler decides what `Value()` returns**; later replies,
panics and errors change nothing -/
theorem nested_value_first_reply_decides (hasGet : Bool) (missing : Str) (script : List Act) :
    valueOf hasGet missing script = spec hasGet missing script := by
  cases hasGet with
  | false => rfl
  | true =>
    induction script with
    | nil => rfl
    | cons a r ih =>
      cases a with
      | timeout | forValue => exact ih
      | value | requireValue => rfl
      | panic p => rcases p with (_ | _) | _ | _ <;> rfl
      -- a replying action leaves a replied state, which `settle_replied` carries to the end
      -- (`execute true m sc` unfolds to `settle m (runScript {} sc)`)
      | _ => exact congrArg (fun s : GetReq.St => (s.value, s.err)) (settle_replied missing _ r rfl)

open GoRes.GetReq in
/-- `Value()` always returns, with an error whenever it has no value from a reply: never both a stored
value and an error -/
theorem nested_value_never_both (hasGet : Bool) (missing : Str) (script : List Act) :
    (valueOf hasGet missing script).1 = none ∨ (valueOf hasGet missing script).2 = none := by
  rw [nested_value_first_reply_decides]
  unfold spec
  cases hasGet with
  | false => exact .inl rfl
  | true =>
    cases firstOutcome script with
    | value v => exact .inr rfl
    | _ => exact .inl rfl

open GoRes.GetReq in
/-- without a Get handler `Value()` reports not-found; a handler that returns without replying gives the
internal missing-response error -/
theorem nested_value_defaults (missing : Str) (script : List Act) :
    valueOf false missing script = (none, some errNotFound) ∧
    valueOf true missing [] = (none, some (.res GetReq.codeInternal missing)) := ⟨rfl, rfl⟩

-- non-vacuity: reply, then a second reply (which panics inside the handler), then an error: the first value stands
open GoRes.GetReq in
example : valueOf true [1] [.timeout, .model [2], .collection [3], .error (.other [4])] = (some [2], none) := rfl
open GoRes.GetReq in
example : valueOf true [1] [.value, .model [2]] =
    (none, some (.res GetReq.codeInternal (b!"Internal error: Value() called within get request handler"))) := rfl

end GoRes.Props.C04
