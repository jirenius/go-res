import GoRes.Model.Index
import GoRes.Lemmas.Index
/-! # C13 — index queries equal a sorted, filtered, windowed scan of the store -/
namespace GoRes.Props.C13
open GoRes GoRes.Index

def NoNul (b : Bytes) : Prop := ∀ c ∈ b, c ≠ 0

/-- **key order**: the on-disk order of `<key>\0<id>` is the lexicographic order of (key, id),
provided keys and ids do not contain the separator byte -/
theorem key_order (k1 k2 id1 id2 : Bytes) (h1 : NoNul k1) (h2 : NoNul k2) (h3 : NoNul id1) (h4 : NoNul id2) :
    ble (k1 ++ 0 :: id1) (k2 ++ 0 :: id2) = pairLe (k1, id1) (k2, id2) := by
  have _ := h3; have _ := h4  -- (only the keys matter)
  exact sep_ble h1 h2 id1 id2

/-- the database keys are sorted (strictly ascending), as BadgerDB iterates them -/
def Sorted (keys : List Bytes) : Prop := keys.Pairwise (fun a b => blt a b = true)

/-- the keys under `name:` are exactly the entries of the index -/
def Holds (keys : List Bytes) (name : Bytes) (entries : List (Bytes × Bytes)) : Prop :=
  ∀ k, (k ∈ keys ∧ (getQuery name []).isPrefixOf k = true) ↔ ∃ e ∈ entries, k = getKey name e.1 e.2

/-- **fetch = sort – filter – window**, for every prefix (empty, partial, full key, longer than
any key, containing the separator byte), filter, offset, limit (negative, zero, positive) and direction.
(`hlen` was added to the hand-written statement: with a negative limit the loop runs with limit
`MaxInt64`, so it agrees with the specification only if the unlimited result has at most `MaxInt64`
ids; see `fetch_unlimited_length` and `fetch_spec_needs_bound` below. `hname` and `ho` are not used.)
Keys and ids are only required to consist of bytes (≤ 255, `hbytes`; the model's bytes are natural
numbers): a 0xFF byte directly after the prefix is found in both directions. -/
theorem fetch_spec (keys : List Bytes) (name pre : Bytes) (entries : List (Bytes × Bytes))
    (filter : Bytes → Bool) (offset limit : Int) (reverse : Bool)
    (hs : Sorted keys) (hh : Holds keys name entries)
    (hn : ∀ e ∈ entries, NoNul e.1 ∧ NoNul e.2) (hname : NoNul name)
    (hd : (entries.map (·.2)).Nodup) (ho : 0 ≤ offset)
    (hbytes : ∀ e ∈ entries, ∀ c ∈ e.1 ++ e.2, c ≤ 255)
    (hlen : limit < 0 → (spec entries pre filter offset limit reverse).length ≤ 9223372036854775807) :
    fetch keys name pre filter offset limit reverse = some (spec entries pre filter offset limit reverse) := by
  have _ := hname; have _ := ho
  have hnd : entries.Nodup := hd.of_map _ fun _ _ h e => h (e ▸ rfl)
  rw [fetch_eq keys name pre entries filter offset limit reverse hs hh hn hnd (fun _ => hbytes)]
  split
  · next hneg =>
    -- the loop ran with `MaxInt64`, and the unlimited result is no longer than that
    have h0 : ¬ limit = 0 := by omega
    simp only [spec, h0, hneg, ↓reduceIte, List.length_map] at hlen ⊢
    rw [if_neg (by decide), if_neg (by decide), List.take_of_length_le (by simpa using hlen trivial)]
  · rfl

/-- `fetch_spec` for an index of at most `MaxInt64` entries -/
theorem fetch_spec_of_length (keys : List Bytes) (name pre : Bytes) (entries : List (Bytes × Bytes))
    (filter : Bytes → Bool) (offset limit : Int) (reverse : Bool)
    (hs : Sorted keys) (hh : Holds keys name entries)
    (hn : ∀ e ∈ entries, NoNul e.1 ∧ NoNul e.2) (hname : NoNul name)
    (hd : (entries.map (·.2)).Nodup) (ho : 0 ≤ offset)
    (hbytes : ∀ e ∈ entries, ∀ c ∈ e.1 ++ e.2, c ≤ 255)
    (hlen : entries.length ≤ 9223372036854775807) :
    fetch keys name pre filter offset limit reverse = some (spec entries pre filter offset limit reverse) :=
  fetch_spec keys name pre entries filter offset limit reverse hs hh hn hname hd ho hbytes
    fun _ => Nat.le_trans (spec_length_le ..) hlen

/-- the hypothesis `hlen` of `fetch_spec` (added to the original statement) is necessary: an
unlimited query (`limit < 0`, which `FetchCollection` turns into `MaxInt64`) never returns more
than `MaxInt64` ids … -/
theorem fetch_unlimited_length (keys : List Bytes) (name pre : Bytes) (filter : Bytes → Bool)
    (offset limit : Int) (reverse : Bool) (r : List Bytes) (hneg : limit < 0)
    (h : fetch keys name pre filter offset limit reverse = some r) : r.length ≤ 9223372036854775807 := by
  have h0 : ¬ limit = 0 := by omega
  simp only [fetch, h0, ↓reduceIte, hneg] at h
  have := collect_length_le (by omega) h
  simp only [List.length_nil] at this
  omega

/-- … and without it the statement is false: an index with `2^63` entries (ids `1`, `11`, `111`, …
under the empty key) satisfies every other hypothesis, the specification returns all of them, the
implementation stops after `MaxInt64` -/
theorem fetch_spec_needs_bound :
    ¬ (∀ (keys : List Bytes) (name pre : Bytes) (entries : List (Bytes × Bytes))
        (filter : Bytes → Bool) (offset limit : Int) (reverse : Bool),
        Sorted keys → Holds keys name entries →
        (∀ e ∈ entries, NoNul e.1 ∧ NoNul e.2) → NoNul name →
        (entries.map (·.2)).Nodup → 0 ≤ offset →
        (∀ e ∈ entries, ∀ c ∈ e.1 ++ e.2, c ≤ 255) →
        fetch keys name pre filter offset limit reverse = some (spec entries pre filter offset limit reverse)) := by
  intro hall
  let N : Nat := 9223372036854775808
  let entries : List (Bytes × Bytes) := (List.range N).map fun i => ([], List.replicate (i + 1) 1)
  have hone : ∀ e ∈ entries, ∀ c ∈ e.1 ++ e.2, c = 1 := by
    simp only [entries, List.forall_mem_map, List.nil_append]
    exact fun i _ c hc => List.eq_of_mem_replicate hc
  have hnul : ∀ e ∈ entries, NoNul e.1 ∧ NoNul e.2 := fun e he =>
    ⟨fun c hc => by rw [hone e he c (List.mem_append_left _ hc)]; decide,
     fun c hc => by rw [hone e he c (List.mem_append_right _ hc)]; decide⟩
  have hnodup : (entries.map (·.2)).Nodup := by
    simp only [entries, List.map_map, List.nodup_iff_pairwise_ne, List.pairwise_map]
    refine List.pairwise_lt_range.imp fun {i j} hij h => ?_
    have := congrArg List.length h
    simp at this; omega
  -- the keys of the entries in ascending order: a database that holds exactly them
  let keys : List Bytes := (sortPairs entries).map fun e => getKey [] e.1 e.2
  have hholds : Holds keys [] entries := fun k => by
    simp only [keys, List.mem_map, mem_sortPairs]
    exact ⟨fun ⟨⟨e, he, h⟩, _⟩ => ⟨e, he, h.symm⟩,
      fun ⟨e, he, h⟩ => ⟨⟨e, he, h.symm⟩, h ▸ getQuery_prefix_getKey _ _ _⟩⟩
  have h := hall keys [] [] entries (fun _ => true) 0 (-1) false
    (asc_keys_sortPairs [] (fun e he => (hnul e he).1) (hnodup.of_map _ fun _ _ h e => h (e ▸ rfl))) hholds hnul
    nofun hnodup (Int.le_refl 0) fun e he c hc => by rw [hone e he c hc]; decide
  have hle := fetch_unlimited_length (hneg := by decide) (h := h)
  have hlen : (spec entries [] (fun _ => true) 0 (-1) false).length = N := by
    have e : ∀ l : List (Bytes × Bytes), l.filter (fun _ => true) = l := fun l => List.filter_eq_self.2 fun _ _ => rfl
    simp [spec, e, (sortPairs_perm _).length_eq, entries]
  rw [hlen] at hle
  exact absurd hle (by decide)

/-- **index consistency**: after any history of creates, updates (changing or keeping keys) and
deletes, the entries of every index are exactly the image of the stored values
(values whose key function returns `none` are not indexed) -/
theorem index_consistent {V : Type} (idxs : List (Idx V)) (hist : List (Bytes × Option V))
    (hnames : (idxs.map (·.name)).Pairwise (fun a b => ¬ (getQuery a []).isPrefixOf (getQuery b []) ∧ ¬ (getQuery b []).isPrefixOf (getQuery a [])))
    (hnn : ∀ ix ∈ idxs, NoNul ix.name) (hid : ∀ h ∈ hist, NoNul h.1)
    (hk : ∀ ix ∈ idxs, ∀ v, ∀ k, ix.key v = some k → NoNul k)
    (ix : Idx V) (hix : ix ∈ idxs) (k : Bytes) :
    k ∈ keysOf ix.name (applyHist idxs hist ([], [])).2 ↔
      ∃ e ∈ entriesOf ix (applyHist idxs hist ([], [])).1, k = getKey ix.name e.1 e.2 := by
  have _ := hnn; have _ := hid  -- (only the separator-freeness of the keys matters)
  exact (applyHist_inv idxs hnames hk hist [] [] List.nodup_nil
    (fun _ _ k => by simp [keysOf, entriesOf])).2 ix hix k

/-- … and the database stays sorted, so `fetch_spec` applies after every history -/
theorem index_sorted {V : Type} (idxs : List (Idx V)) (hist : List (Bytes × Option V)) :
    Sorted ((applyHist idxs hist ([], [])).2.map (·.1)) :=
  applyHist_sorted idxs hist ([], []) List.Pairwise.nil

/-- zero limit means empty, whatever the index holds -/
theorem limit_zero (keys : List Bytes) (name pre : Bytes) (filter : Bytes → Bool) (offset : Int) (reverse : Bool) :
    fetch keys name pre filter offset 0 reverse = some [] := by
  simp [fetch]

/-! ## non-vacuity -/
-- index "k" (107) with entries ("a","1"), ("ab","2"): keys "k:a\01", "k:ab\02"
example : fetch [[107,58,97,0,49], [107,58,97,98,0,50]] [107] [97] (fun _ => true) 0 (-1) true = some [[50], [49]] := by decide
example : spec [([97],[49]), ([97,98],[50])] [97] (fun _ => true) 0 (-1) true = [[50], [49]] := by decide
-- a key with the byte 0xFF right after the prefix is found by the reverse scan: keys "k:\x01\01",
-- "k:\x01\xff\02", "k:\x02\03", prefix "k:\x01"
example : scan [[107,58,1,0,49], [107,58,1,255,0,50], [107,58,2,0,51]] [107,58,1] true =
    [[107,58,1,255,0,50], [107,58,1,0,49]] := by decide
example : fetch [[107,58,1,0,49], [107,58,1,255,0,50], [107,58,2,0,51]] [107] [1] (fun _ => true) 0 (-1) true =
    some [[50], [49]] := by decide
example : spec [([1],[49]), ([1,255],[50]), ([2],[51])] [1] (fun _ => true) 0 (-1) true = [[50], [49]] := by decide
-- the end of a prefix: trailing 0xFF bytes are stripped, the last byte is incremented
example : prefixEnd [107,58,255] = some [107,59] := by decide
example : prefixEnd [255,255] = none := by decide

end GoRes.Props.C13
