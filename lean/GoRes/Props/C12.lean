import GoRes.Model.StoreMap
import GoRes.Lemmas.StoreMap
import GoRes.Lemmas.Index
import GoRes.Lemmas.Txn
import GoRes.Generated.Access
/-! # C12 — acknowledged writes survive a crash; Init seeds once; indexes rebuild
(partial: BadgerDB's own atomicity and durability of one `Update` transaction, and the OS, are
trusted; the crash harness kills a real process at the instrumented points and compares the
reopened database with `recovered`) -/
namespace GoRes.Props.C12
open GoRes GoRes.Index GoRes.StoreMap

variable {V : Type}

/-- **durability at the level of committed transactions**: after a crash following `n` commits,
the value of every id is the one written by the last of those commits that touched it —
`recovered` is by definition the fold of the committed prefix; what is proved is that a later
transaction cannot disturb an earlier acknowledged one: cutting later only adds commits -/
theorem recovered_step (d : Disk V) (w : List (Txn V)) (n : Nat) (t : Txn V) (h : w[n]? = some t) :
    recovered d w (n + 1) = commit (recovered d w n) t := by
  simp [recovered, List.take_add_one, h, List.foldl_append]

/-- the transaction in flight is either fully applied or absent: the state after a crash at any
point is the state after some prefix of the workload -/
theorem all_or_nothing (d : Disk V) (w : List (Txn V)) (n : Nat) :
    ∃ k, k ≤ w.length ∧ recovered d w n = recovered d w k := by
  by_cases hn : n ≤ w.length
  · exact ⟨n, hn, rfl⟩
  · refine ⟨w.length, Nat.le_refl _, ?_⟩
    simp only [recovered]
    rw [List.take_of_length_le (by omega), List.take_of_length_le (Nat.le_refl _)]

/-- **Init seeds exactly once**: once the marker is committed every later Init is the identity —
seeds deleted later are never resurrected, nothing is duplicated … -/
theorem init_once (seeds seeds' : List (Bytes × V)) (d : Disk V) (w : List (Txn V))
    (hw : ∀ t ∈ w, ∀ s, t ≠ .init s) :
    commit (w.foldl commit (initOnce seeds d)) (.init seeds') = w.foldl commit (initOnce seeds d) := by
  have _ := hw  -- (holds for every workload: a later Init is the identity as well)
  exact initOnce_of_marker seeds' _ (foldl_commit_marker w _ (initOnce_marker seeds d))

/-- … never half-seeding: Init is one transaction, so before it the marker is unset and no seed
was written by it, after it all missing seeds and the marker are there -/
theorem init_complete (seeds : List (Bytes × V)) (d : Disk V) (hm : d.marker = false)
    (hs : (seeds.map (·.1)).Nodup) :
    (initOnce seeds d).marker = true ∧
    ∀ id v, (id, v) ∈ seeds → vget (initOnce seeds d).vals id = (match vget d.vals id with | some old => some old | none => some v) := by
  refine ⟨initOnce_marker seeds d, ?_⟩
  intro id v hmem
  rw [initOnce_vals seeds d hm, (mem_iff_vget seeds hs id v).1 hmem]
  cases vget d.vals id <;> rfl

/-- Init never overwrites or removes an existing value -/
theorem init_preserves (seeds : List (Bytes × V)) (d : Disk V) (id : Bytes) (v : V) (h : vget d.vals id = some v) :
    vget (initOnce seeds d).vals id = some v := by
  cases hm : d.marker with
  | true => rw [initOnce_of_marker seeds d hm]; exact h
  | false => rw [initOnce_vals seeds d hm, h]; rfl

/-- **RebuildIndexes is exact**, whatever garbage the index held before: afterwards the keys of
every index are exactly the image of the stored values -/
theorem rebuild_exact (idxs : List (Idx V)) (vals : List (Bytes × V)) (db : DB)
    (hd : (vals.map (·.1)).Nodup)
    (hnames : (idxs.map (·.name)).Pairwise (fun a b => ¬ (getQuery a []).isPrefixOf (getQuery b []) ∧ ¬ (getQuery b []).isPrefixOf (getQuery a [])))
    (ix : Idx V) (hix : ix ∈ idxs) (k : Bytes) :
    k ∈ keysOf ix.name (rebuild idxs vals db) ↔ ∃ e ∈ entriesOf ix vals, k = getKey ix.name e.1 e.2 := by
  have h := rebuild_fold_inv idxs hnames vals [] _ (by simpa using hd) (idxInv_cleared idxs db) ix hix k
  rwa [List.nil_append] at h

/-! ## Init against concurrent writers (`Model/Txn.lean`: BadgerDB's optimistic transactions)

`others` is any sequence of writes (creates, updates, deletes of any ids, each acknowledged) that
commit while Init's transaction is open — between its reads and its commit. -/

/-- **a failed Init changes nothing and notifies nobody** (all-or-nothing, never half-seeding) -/
theorem init_failed_inert (db : Txn.DB V) (marker : Txn.Key) (mark : V) (seeds : List (Txn.Key × V))
    (others : List (Txn.Key × Option V))
    (h : (Txn.initRun db marker mark seeds others).2.1 = false) :
    (Txn.initRun db marker mark seeds others).1.vers = (db.putAll others).vers ∧
    (Txn.initRun db marker mark seeds others).2.2 = [] := by
  -- of the three ways Init ends only the conflict reports failure
  revert h
  unfold Txn.initRun
  dsimp only
  split
  · nofun
  · split
    · nofun
    · exact fun _ => ⟨rfl, rfl⟩

/-- **Init never overwrites an acknowledged write**: whatever was committed while its transaction
was open is still there afterwards, whether Init succeeded or not -/
theorem init_keeps_concurrent_writes (db : Txn.DB V) (hw : Txn.WF db) (marker : Txn.Key) (mark : V)
    (seeds : List (Txn.Key × V)) (others : List (Txn.Key × Option V)) :
    ∀ k ∈ others.map (·.1), (Txn.initRun db marker mark seeds others).1.get k = (db.putAll others).get k := by
  intro k hk
  unfold Txn.initRun
  rw [Txn.initProg_eq]
  by_cases hmk : (db.get marker).isSome = true
  · rw [if_pos hmk]
  · obtain ⟨hs, -, hwr⟩ := Txn.initTxn_shape db marker mark seeds
    rw [if_neg hmk]
    dsimp only
    cases hc : Txn.commit (db.putAll others) _ with
    | none => rfl
    | some db' =>
      obtain ⟨-, rfl⟩ := Txn.commit_some hc
      -- Init wrote only what it had read, and nobody else wrote what it had read
      rw [Txn.get_apply (Txn.wf_putAll hw others), List.find?_eq_none.2]
      intro e he hek
      have : e.1 = k := by simpa using hek
      exact Txn.not_written_of_commit hs hc (hwr e.1 (List.mem_map_of_mem (f := (·.1)) he)) (this ▸ hk)

/-- **a successful Init is an Init that ran alone at its commit point** (so everything proved about
the sequential `initOnce` applies to it): same database, same seeds reported to the listeners -/
theorem init_serializable (db : Txn.DB V) (hw : Txn.WF db) (marker : Txn.Key) (mark : V)
    (seeds : List (Txn.Key × V)) (others : List (Txn.Key × Option V)) (hm : marker ∉ others.map (·.1))
    (hok : (Txn.initRun db marker mark seeds others).2.1 = true) :
    Txn.initRun db marker mark seeds others = Txn.initAlone (db.putAll others) marker mark seeds := by
  have hwn := Txn.wf_putAll hw others
  unfold Txn.initAlone Txn.initRun at *
  simp only [Txn.DB.putAll]
  rw [Txn.initProg_eq] at hok ⊢
  rw [Txn.initProg_eq, Txn.get_putAll_notin hw others hm]
  by_cases hmk : (db.get marker).isSome = true
  · simp only [if_pos hmk]
  · obtain ⟨hs, hrd, -⟩ := Txn.initTxn_shape db marker mark seeds
    simp only [if_neg hmk] at hok ⊢
    cases hc : Txn.commit (db.putAll others) _ with
    | none => rw [hc] at hok; cases hok
    | some db' =>
      obtain ⟨-, rfl⟩ := Txn.commit_some hc
      -- nobody wrote a seed id meanwhile, so the same program run at the commit point writes the same
      obtain ⟨hw2, hc2⟩ := Txn.seedLoop_congr db (db.putAll others) (Txn.initT db marker)
        (Txn.initT (db.putAll others) marker) seeds rfl fun k hk =>
          (Txn.get_putAll_notin hw others (Txn.not_written_of_commit hs hc (hrd k (List.mem_cons_of_mem _ hk)))).symm
      rw [Txn.commit_alone hwn _ (Txn.initTxn_shape (db.putAll others) marker mark seeds).1]
      simp only [Txn.T.set, hw2, hc2]

/-- **what a successful Init leaves behind, whatever ran beside it**: relative to the database at its
commit point (everything the other writers committed meanwhile included), nothing changes if the store
was already marked; otherwise every seed whose id was free holds its seed value, every id that existed
keeps its value, the marker is set and no other key is touched — the sequential `initOnce` of the
theorems above -/
theorem init_concurrent_is_initOnce (db : Txn.DB V) (hw : Txn.WF db) (marker : Txn.Key) (mark : V)
    (seeds : List (Txn.Key × V)) (hnd : (seeds.map (·.1)).Nodup) (others : List (Txn.Key × Option V))
    (hm : marker ∉ others.map (·.1)) (hok : (Txn.initRun db marker mark seeds others).2.1 = true)
    (k : Txn.Key) (hk : k ≠ marker) :
    (Txn.initRun db marker mark seeds others).1.get k =
      (if ((db.putAll others).get marker).isSome then (db.putAll others).get k
       else match seeds.find? (fun s => s.1 == k) with
         | some s => (match (db.putAll others).get k with | some old => some old | none => some s.2)
         | none => (db.putAll others).get k) := by
  have _ := hnd  -- (a repeated seed id is read back from the transaction's own write and skipped)
  rw [init_serializable db hw marker mark seeds others hm hok]
  exact (Txn.initAlone_get (db.putAll others) (Txn.wf_putAll hw others) marker mark seeds k hk).2.1

/-- why Init must look its seed ids up *through its transaction*: the variant that checks existence in
a separate read-only view commits over a Create that was acknowledged meanwhile -/
theorem blind_lookup_loses_a_write :
    let db : Txn.DB Nat := {}
    let r := Txn.initRunBlind db [0] 1 [([7], 100)] [([7], some 55)]
    r.2.1 = true ∧ r.1.get [7] = some 100 ∧ (db.putAll [([7], some 55)]).get [7] = some 55 := by
  decide

/-! ## non-vacuity -/
-- the same history with the real Init: the Create of id [7] is acknowledged, Init conflicts, nothing is seeded
example : let db : Txn.DB Nat := {}
    let r := Txn.initRun db [0] 1 [([7], 100), ([8], 200)] [([7], some 55)]
    r.2.1 = false ∧ r.1.get [7] = some 55 ∧ r.1.get [8] = none ∧ r.1.get [0] = none := by decide
-- no interference: both seeds and the marker are written, the listeners hear of both
example : let db : Txn.DB Nat := {}
    let r := Txn.initRun db [0] 1 [([7], 100), ([8], 200)] [([9], some 5)]
    r.2.1 = true ∧ r.1.get [7] = some 100 ∧ r.1.get [8] = some 200 ∧ r.1.get [0] = some 1 ∧ r.1.get [9] = some 5 ∧
    r.2.2 = [([7], 100), ([8], 200)] := by decide

example : (initOnce [([1], 5)] ({ vals := [], marker := false } : Disk Nat)).vals = [([1], 5)] := by decide
example : (commit (commit (initOnce [([1], 5)] ({} : Disk Nat)) (.put [1] none)) (.init [([1], 5)])).vals = [] := by decide

/-! ## the Go function has the shape of the modelled program

`Generated.initShape` (rewritten from /repo's store/badgerstore/store.go on every run) is the
database-relevant skeleton of `Store.Init` in source order.  `Txn.initProg`, `all_or_nothing` and
`init_once` are about *one* transaction that reads the marker, reads each seed id through the
transaction before writing it, writes the marker, and whose listeners run after the commit.  The
theorem below says the source is that program: one update transaction; every transactional read and
write lies inside it and nothing is looked up beside it (`blind_lookup_loses_a_write` is what
happens otherwise); the marker is the first thing read and is written inside the same transaction,
after the seeds (a marker written by a second transaction leaves a crash window with seeds but no
marker: seeds deleted later would be resurrected); listeners are told after the transaction. -/

def between (xs : List String) : List String :=
  ((xs.dropWhile (· != "update{")).drop 1).takeWhile (· != "}update")

def initShapeOk (xs : List String) : Bool :=
  let inside := between xs
  let before := xs.takeWhile (· != "update{")
  let after := ((xs.dropWhile (· != "}update")).drop 1)
  xs.count "update{" == 1 && xs.count "}update" == 1 &&
  -- nothing transactional, no other lookup and no notification outside the one transaction / before its end
  before.all (fun x => !(x.startsWith "txn." || x.startsWith "beside:" || x.startsWith "notify:")) &&
  after.all (fun x => !(x.startsWith "txn." || x.startsWith "beside:")) &&
  inside.all (fun x => x.startsWith "txn.get:" || x.startsWith "txn.set:") &&
  -- marker read first, marker written last, seeds read before they are written
  inside.head? == some "txn.get:marker" &&
  inside.getLast? == some "txn.set:marker" &&
  inside.count "txn.set:marker" == 1 &&
  (inside.takeWhile (· != "txn.set:seed")).contains "txn.get:seed" &&
  inside.contains "txn.set:seed" &&
  -- the listeners are told, and only after the commit
  after.any (·.startsWith "notify:")

theorem init_source_is_the_modelled_program : initShapeOk Generated.initShape = true := by
  decide +kernel

-- the predicate rejects the shapes it is meant to reject
example : initShapeOk ["update{", "txn.get:marker", "txn.get:seed", "txn.set:seed", "}update", "update{", "txn.set:marker", "}update", "notify:callOnChange"] = false := by decide +kernel
example : initShapeOk ["update{", "txn.get:marker", "beside:Get", "txn.set:seed", "txn.set:marker", "}update", "notify:callOnChange"] = false := by decide +kernel
example : initShapeOk ["update{", "txn.get:marker", "txn.get:seed", "txn.set:seed", "notify:callOnChange", "txn.set:marker", "}update"] = false := by decide +kernel

end GoRes.Props.C12
