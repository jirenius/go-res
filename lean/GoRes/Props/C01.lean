import GoRes.Model.Discipline
import GoRes.Model.Pool
import GoRes.Lemmas.Pool
/-! # C01 — at most one callback of a worker group executes at any instant

Every state reachable by ANY sequence of actions of the pool model — any number of
workers, submitters, groups, start/stop/start cycles, every interleaving at the granularity
of the service mutex, even spurious wake-ups — has at most one running callback per group. -/
namespace GoRes.Props.C01
open GoRes.Pool

/-- **mutual exclusion per group** (group 0 = Parallel is exempt) -/
theorem mutex (acts : List Act) (s : St) (h : run init acts = some s)
    (i j : Nat) (w1 w2 : Work) (c1 c2 : Nat)
    (hi : s.workers[i]? = some (.running w1 c1)) (hj : s.workers[j]? = some (.running w2 c2))
    (hw : w1.wid = w2.wid) (hne : w1.wid ≠ 0) : i = j := by
  -- with worker `i` set aside no item of the group is left, yet worker `j` would still hold one
  refine Decidable.byContradiction fun hij => ?_
  have hle := (Inv.reachable h).le _ hne
  have h0 := cntW_set hi w1.wid .idle
  rw [← List.getElem?_set_ne hij (a := .idle)] at hj
  have : 0 < cntW w1.wid (s.workers.set i .idle) :=
    List.countP_pos_iff.mpr ⟨_, List.mem_of_getElem? hj, by simp [isWS, wsWid, hw]⟩
  simp only [wsWid, if_true, reduceCtorEq, if_false] at h0
  omega

/-- the executable check used by the trace validator agrees -/
theorem mutexOk_reachable (acts : List Act) (s : St) (h : run init acts = some s) : mutexOk s = true := by
  have hI := Inv.reachable h
  unfold mutexOk runningNow
  exact decide_eq_true (nodup_runningWids fun g hg => by have := hI.le g hg; omega)

/-- a group has at most one live work item (queued, or owned by a running worker), and a live
item is registered in `rwork` — the invariant behind mutual exclusion -/
theorem one_live_item (acts : List Act) (s : St) (h : run init acts = some s) (g : Nat) (hg : g ≠ 0) :
    cnt g s ≤ 1 ∧ (1 ≤ cnt g s → s.wq.isSome → g ∈ s.rwork) := by
  have hI := Inv.reachable h
  have hle : cnt g s ≤ 1 := hI.le g hg
  exact ⟨hle, fun h1 hq => (hI.mem_rwork_iff hq hg).mpr (Nat.le_antisymm hle h1)⟩

/-! ## the premise of the model, re-proved against the source on every run

The model's actions are critical sections of the service mutex: that is only a faithful picture of
the Go code if the queue state (`rwork`, `workqueue`, `workbuf`, `work.queue`) is never touched
without the mutex.  `Generated/Access.lean` is rewritten from /repo's source by the extractor. -/

open GoRes.Discipline in
/-- **every access to the queue state is made with the service mutex held**, and none of them is an
atomic operation mixed in -/
theorem queue_state_guarded :
    ∀ a ∈ Generated.accesses, poolFields.contains (Acc.strct a, Acc.field a) = true →
      Acc.lock a = "L" ∧ (Acc.kind a = "r" ∨ Acc.kind a = "w") := by
  decide +kernel

/-- `processQueue`, which the model treats as part of the worker's critical section, is entered
with the mutex held at every call site -/
theorem process_queue_entered_locked :
    Generated.entryLocked.contains "work.processQueue" = true ∧
    ∀ c ∈ Generated.calls, c.1 = "work.processQueue" → c.2.2 = "L" := by
  decide +kernel

/-! ## non-vacuity: two workers run different groups while a third item is queued -/
example : ∃ s, run init [.serve 2, .subCheck 1 7 100 true, .subLock 1, .subSignal 1, .wStart 0,
    .subCheck 2 8 101 true, .subLock 2, .subSignal 2, .wStart 1, .subCheck 3 7 102 true, .subLock 3] = some s ∧
    s.workers = [.running ⟨7, [102]⟩ 100, .running ⟨8, []⟩ 101] := by
  refine ⟨_, rfl, ?_⟩; rfl

end GoRes.Props.C01
