import GoRes.Model.Mux
import GoRes.Lemmas.Mux
import GoRes.Lemmas.MuxMount
import GoRes.Lemmas.Pattern
/-! # C06 — routing returns the most specific matching pattern, params and group

Property theorems about the trie model (`Model/Mux.lean`).  Statements are about
*every* tree reachable by registrations, every pattern, every resource name.
Definitions used only to state the theorems (`StoredAt`, `ElemsMatch`,
`MoreSpecific`, `Reachable`) are here so that a reader sees exactly what is
claimed; helper lemmas are in `Lemmas/Mux.lean`. -/
namespace GoRes.Props.C06
open GoRes GoRes.Mux

/-- the node stored under pattern `pat` (a list of trie edges) below `n` -/
inductive StoredAt : Node → List Elem → Node → Prop
  | here (n) : StoredAt n [] n
  | lit {n s c pat x} : lookupLit n.lits s = some c → StoredAt c pat x → StoredAt n (.lit s :: pat) x
  | param {n c pat x} : n.param = some c → StoredAt c pat x → StoredAt n (.param :: pat) x
  | wild {n c} : n.wild = some c → StoredAt n [.wild] c

/-- a pattern (as trie edges) matches name tokens: literal = equal, placeholder = any one
token, full wildcard = one or more remaining tokens -/
def ElemsMatch : List Elem → List Str → Prop
  | [], [] => True
  | [.wild], _ :: _ => True
  | .lit s :: ps, t :: ts => s = t ∧ ElemsMatch ps ts
  | .param :: ps, _ :: ts => ElemsMatch ps ts
  | _, _ => False

def elemCls : Elem → Nat
  | .lit _ => 2
  | .param => 1
  | .wild => 0

/-- `a` is strictly more specific than `b`: at the first position where their classes
differ, `a` has the higher class (literal > placeholder > full wildcard) -/
def MoreSpecific : List Elem → List Elem → Prop
  | a :: as, b :: bs => elemCls a > elemCls b ∨ (elemCls a = elemCls b ∧ MoreSpecific as bs)
  | _, _ => False

/-- trees reachable from the empty mux by any sequence of `AddHandler` / `AddListener`
calls with arbitrary arguments (failed calls keep the nodes `fetch` created, as in Go) -/
inductive Reachable : Node → Prop
  | empty : Reachable Node.empty
  | handler {n} (pattern : Str) (id : Nat) (group : Str) (parallel : Bool) :
      Reachable n → Reachable (addHandlerAt n pattern id group parallel).1
  | listener {n} (pattern : Str) (id : Nat) :
      Reachable n → Reachable (addListenerAt n pattern id).1

/-- every `>` node carries a handler: what `ValidateListeners` (run by `Serve`) enforces for
full-wildcard patterns -/
def WildHaveHandlers (root : Node) : Prop :=
  ∀ pat x, StoredAt root pat x → pat.getLast? = some .wild → x.hs.isSome

/-! ## bridge to the function-style notions of `Lemmas/Mux.lean`

`StoredAt` is `getAt` (the model's own path lookup) restricted to paths with `>` last;
`ElemsMatch`/`MoreSpecific` are `EMatch`/`MoreSpec`. -/

theorem elemsMatch_eq : @ElemsMatch = @EMatch := by
  funext pat toks
  induction pat generalizing toks with
  | nil => cases toks <;> rfl
  | cons e ps ih =>
    cases toks with
    | nil =>
      cases e with
      | lit s => rfl
      | param => rfl
      | wild => cases ps <;> rfl
    | cons t ts =>
      cases e with
      | lit s => simp only [ElemsMatch, EMatch, ih]
      | param => simp only [ElemsMatch, EMatch, ih]
      | wild => cases ps <;> rfl

theorem moreSpecific_eq : @MoreSpecific = @MoreSpec := by
  funext a b
  induction a generalizing b with
  | nil => rfl
  | cons x as ih =>
    cases b with
    | nil => rfl
    | cons y bs => simp only [MoreSpecific, MoreSpec, ih]; cases x <;> cases y <;> rfl

theorem StoredAt.toGetAt {n : Node} {pat : List Elem} {x : Node} (h : StoredAt n pat x) :
    getAt n pat = some x ∧ WildLast pat := by
  induction h with
  | here n => simp [WildLast]
  | lit hc _ ih => simp [getAt_cons, child, hc, ih.1, WildLast, ih.2]
  | param hc _ ih => simp [getAt_cons, child, hc, ih.1, WildLast, ih.2]
  | wild hc => simp [getAt_cons, child, hc, WildLast]

theorem StoredAt.of_getAt (pat : List Elem) : ∀ {n x : Node}, getAt n pat = some x → WildLast pat → StoredAt n pat x := by
  induction pat with
  | nil => intro n x h _; simp at h; subst h; exact .here n
  | cons e r ih =>
    intro n x h hw
    obtain ⟨c, hc, hr⟩ := getAt_cons_some.1 h
    cases e with
    | lit s => exact .lit hc (ih hr hw.2)
    | param => exact .param hc (ih hr hw.2)
    | wild =>
      have := hw.1 rfl; subst this
      simp at hr; subst hr
      exact .wild hc

theorem storedAt_iff {n : Node} {pat : List Elem} {x : Node} :
    StoredAt n pat x ↔ getAt n pat = some x ∧ WildLast pat :=
  ⟨StoredAt.toGetAt, fun h => StoredAt.of_getAt pat h.1 h.2⟩


/-! ## the property theorems -/

/-- **soundness of lookup**: what `matchNode` returns is stored under a pattern that matches
the name, and (for an accepted configuration) carries a handler -/
theorem match_sound (root : Node) (toks : List Str) (f : Found)
    (h : matchNode root toks 0 0 = some f) :
    ∃ pat, StoredAt root pat f.node ∧ ElemsMatch pat toks := by
  obtain ⟨pat, hg, hm, _⟩ := matchNode_spec h
  exact ⟨pat, storedAt_iff.2 ⟨hg, EMatch_wildLast hm⟩, elemsMatch_eq ▸ hm⟩

/-- **completeness**: if some stored pattern with a handler matches the name, lookup finds one -/
theorem match_complete (root : Node) (toks : List Str) (pat : List Elem) (x : Node)
    (hs : StoredAt root pat x) (hh : x.hs.isSome) (hm : ElemsMatch pat toks) (hne : toks ≠ []) :
    ∃ f, matchNode root toks 0 0 = some f :=
  matchNode_complete hne hs.toGetAt.1 hh (elemsMatch_eq ▸ hm) 0 0

/-- **most specific**: no stored, handler-carrying, matching pattern is more specific than the
pattern lookup chose (token by token from the left, literal > placeholder > full wildcard) -/
theorem match_most_specific (root : Node) (hw : WildHaveHandlers root) (toks : List Str) (f : Found)
    (h : matchNode root toks 0 0 = some f) :
    ∃ pat, StoredAt root pat f.node ∧ ElemsMatch pat toks ∧ f.node.hs.isSome ∧
      ∀ pat' x', StoredAt root pat' x' → x'.hs.isSome → ElemsMatch pat' toks → ¬ MoreSpecific pat' pat := by
  obtain ⟨pat, hg, hm, hh, hbest⟩ := matchNode_spec h
  have hs := storedAt_iff.2 ⟨hg, EMatch_wildLast hm⟩
  refine ⟨pat, hs, elemsMatch_eq ▸ hm, hh.elim id (hw pat f.node hs), ?_⟩
  intro pat' x' hs' hh' hm' hms
  exact hbest pat' x' hs'.toGetAt.1 hh' (elemsMatch_eq ▸ hm') (moreSpecific_eq ▸ hms)

/-- registration stores the handler exactly under the registered pattern … -/
theorem add_stores (root : Node) (pattern : Str) (id : Nat) (g : Group) (root' : Node)
    (h : addAt root pattern id g = (root', .ok ())) :
    ∃ x, StoredAt root' ((splitPattern pattern).map elemOf) x ∧ (x.hs.map (·.id)) = some id := by
  obtain ⟨fr, ps, mi, hk, hg, he, _⟩ := addAt_ok (congrArg Prod.snd h)
  rw [h] at hg
  refine ⟨_, storedAt_iff.2 ⟨by rw [show root' = _ from hg, getAt_putAt_self], toksErr_wildLast he⟩, ?_⟩
  rcases addK_cases id g _ fr ps mi with ⟨e, hc⟩ | ⟨_, q, _, hc⟩
  · rw [hc] at hk; cases hk
  · simp [hc]

/-- … and changes the handler of no other pattern (frame), whether it succeeds or panics -/
theorem add_frame (root : Node) (pattern : Str) (id : Nat) (g : Group) (pat : List Elem) (x : Node)
    (hne : pat ≠ (splitPattern pattern).map elemOf)
    (hs : StoredAt root pat x) :
    ∃ x', StoredAt (addAt root pattern id g).1 pat x' ∧ x'.hs = x.hs ∧ x'.listeners = x.listeners := by
  obtain ⟨hx, hw⟩ := hs.toGetAt
  rw [addAt_eq]
  rcases regAt_cases (addK id g) root pattern with ⟨pre, e, hr⟩ | ⟨fr, ps, mi, hr, _⟩
  · obtain ⟨x', h1, h2⟩ := putAt_frame (g := _root_.id) (fun _ _ => rfl) pre hx (fun _ => rfl)
    exact ⟨x', storedAt_iff.2 ⟨hr ▸ h1, hw⟩, h2⟩
  · obtain ⟨x', h1, h2⟩ := putAt_frame (fun x e => child_addK id g x fr ps mi e) _ hx (fun h => absurd h hne)
    exact ⟨x', storedAt_iff.2 ⟨hr ▸ h1, hw⟩, h2⟩

/-- a second registration on the same pattern (same trie edges) is rejected and an invalid
pattern is rejected -/
theorem add_conflict (root : Node) (pattern : Str) (id : Nat) (g : Group) (x : Node)
    (hs : StoredAt root ((splitPattern pattern).map elemOf) x) (hh : x.hs.isSome) :
    (addAt root pattern id g).2 ≠ .ok () := by
  intro h
  obtain ⟨fr, ps, mi, hk, _⟩ := addAt_ok h
  rw [hs.toGetAt.1, Option.getD_some] at hk
  rcases addK_cases id g x fr ps mi with ⟨e, hc⟩ | ⟨hn, _⟩
  · rw [hc] at hk; cases hk
  · rw [hn] at hh; cases hh

theorem add_invalid (root : Node) (pattern : Str) (id : Nat) (g : Group)
    (h : Pattern.isValid pattern = false) : (addAt root pattern id g).2 = .error .invalidPattern := by
  simp [addAt, h]

/-- every pattern the documentation calls valid, with distinct tags, can be registered on a
fresh mux (in particular the anonymous placeholder `*`) -/
theorem add_valid_fresh (pattern : Str) (id : Nat) (ts : List Pattern.Tok)
    (hv : Pattern.isValid pattern = true)   -- equals `(parse pattern).isSome` by C17.isValid_iff_parse
    (hp : Pattern.parse pattern = some ts) (hd : Pattern.distinctTags ts = true) :
    (addAt Node.empty pattern id none).2 = .ok () := by
  obtain ⟨rfl, hwf⟩ := parse_splitPattern hp
  rw [addAt_eq, regAt]
  simp only [hv, Bool.not_true, Bool.false_eq_true, if_false]
  have hs := fetch_eq_putAt (addK id none) (splitPattern pattern) Node.empty 0 0 [] false
  rw [List.map_nil, toksErr_wf _ [] hwf hd (by simp)] at hs
  obtain ⟨fr, ps, mi, h1, _⟩ := hs
  rw [h1, getD_getAt_empty, addK_empty_ok]
  rfl

/-- **lookup never panics**: on every reachable tree, for every mux path and every input string -/
theorem lookup_never_panics (root : Node) (hr : Reachable root) (path rname : Str) :
    getHandler path root rname ≠ .panic := by
  have hg : Good root := by
    induction hr with
    | empty => exact .empty
    | handler pattern id group parallel _ ih => exact ih.addHandlerAt pattern id group parallel
    | listener pattern id _ ih => exact ih.addListenerAt pattern id
  exact getHandler_ne_panic root hg path rname

/-- **params are exact** on a freshly registered pattern: the reported parameters are exactly
the name's tokens at the `$`-positions of the pattern -/
theorem params_exact (pattern : Str) (id : Nat) (group : Str) (par : Bool) (root' : Node) (toks : List Str) (f : Found)
    (h : addHandlerAt Node.empty pattern id group par = (root', .ok ()))
    (hm : matchNode root' toks 0 0 = some f) :
    ∃ m, paramValues f.node.params toks f.mountIdx = some m ∧
      (∀ (j : Nat) (name : Str), (splitPattern pattern)[j]? = some (Ch.dollar :: name) → Pattern.mapGet m name = toks[j]?) ∧
      (∀ (name v : Str), Pattern.mapGet m name = some v → ∃ j : Nat, (splitPattern pattern)[j]? = some (Ch.dollar :: name)) := by
  obtain ⟨g, _, hmi, hnode, hlen, hnd⟩ := addHandlerAt_empty_found h hm
  have hps : f.node.params = paramsOf (splitPattern pattern) 0 := by simp [hnode]
  obtain ⟨m, hfold, hin, hout⟩ := paramValues_spec toks 0 _ []
    (fun pp hpp => by have := paramsOf_idx_lt hpp; omega) hnd
  refine ⟨m, by rw [hps, hmi]; exact hfold, fun j name hj => ?_, fun name v hv => ?_⟩
  · simpa using hin ⟨name, j⟩ (mem_paramsOf.2 ⟨j, hj, by simp⟩)
  · by_cases hmem : name ∈ (paramsOf (splitPattern pattern) 0).map (·.name)
    · obtain ⟨pp, hpp, rfl⟩ := List.mem_map.1 hmem
      obtain ⟨j, hj, _⟩ := mem_paramsOf.1 hpp
      exact ⟨j, hj⟩
    · rw [hout name hmem] at hv
      cases hv

/-- **group is exact**: the stored group is the parsed template (indexes are positions of the
`$tag` tokens in the pattern), so `groupToString` substitutes the name's tokens at those positions;
no template = the resource name; Parallel = the empty group -/
theorem group_exact (pattern : Str) (id : Nat) (group : Str) (par : Bool) (root' : Node) (toks : List Str) (f : Found)
    (h : addHandlerAt Node.empty pattern id group par = (root', .ok ()))
    (hm : matchNode root' toks 0 0 = some f) :
    f.mountIdx = 0 ∧ ∃ reg, f.node.hs = some reg ∧ reg.id = id ∧
      (if par then reg.group = some [] else parseGroup group pattern = .ok reg.group) := by
  obtain ⟨g, hg, hmi, hnode, _, _⟩ := addHandlerAt_empty_found h hm
  exact ⟨hmi, ⟨id, g⟩, by simp [hnode], rfl, hg⟩

/-- a group tag index produced by `parseGroup` points at the `$tag` token of the pattern -/
theorem parseGroup_idx (group pattern : Str) (parts : List GPart) (i : Nat)
    (h : parseGroup group pattern = .ok (some parts)) (hi : GPart.idx i ∈ parts) :
    ∃ name, (splitPattern pattern)[i]? = some (Ch.dollar :: name) :=
  Mux.parseGroup_idx h hi


/-! ## through mounted sub-muxes

A mounted sub-mux is a subtree `sub` (flagged `mounted`) of the parent's tree at the literal
path `st` = mount path followed by the sub-mux's own path.  Lookups and registrations made
through the parent on names/patterns below `st` are the lookups and registrations of the
sub-mux, with every position shifted by `st.length`. -/

/-- **lookup through a mount** finds what the sub-mux finds, and reports the mount index shifted
by the length of the path to the mount point (so nested mounts compose) -/
theorem match_through_mount (root sub : Node) (st rest : List Str) (f : Found)
    (hst : LitPath st) (hloc : getAt root (st.map elemOf) = some sub) (hm : sub.mounted = true)
    (hf : matchNode sub rest 0 0 = some f) :
    matchNode root (st ++ rest) 0 0 = some ⟨f.node, f.mountIdx + st.length⟩ := by
  simpa using matchNode_through sub rest f hm hf st root 0 0 hst hloc

/-- … hence the **same path parameters** … -/
theorem params_through_mount (ps : List PathParam) (st rest : List Str) (mi : Nat) :
    paramValues ps (st ++ rest) (mi + st.length) = paramValues ps rest mi := by
  have (pp : PathParam) : (st ++ rest)[pp.idx + (mi + st.length)]? = rest[pp.idx + mi]? := by
    rw [← Nat.add_assoc, List.getElem?_append_right (Nat.le_add_left ..), Nat.add_sub_cancel]
  simp only [paramValues, this]

/-- … and the **same group** as a lookup on the sub-mux itself -/
theorem group_through_mount (g : Group) (rname : Str) (st rest : List Str) (mi : Nat) :
    groupToString g rname ((st ++ rest).drop (mi + st.length)) = groupToString g rname (rest.drop mi) := by
  rw [Nat.add_comm, List.drop_length_add_append]

/-- **registration through a mount**: registering `st.p` on the parent — with a group template
whose tag positions are counted in the full pattern — is registering `p` on the sub-mux (tag
positions counted in `p`): the same subtree, the same outcome, for valid and invalid patterns,
fresh and conflicting ones alike.  `p` is a non-empty pattern (`hp`: at least one token; `hp1`:
not the single empty token, i.e. `p ≠ ""` — the empty pattern registers on the sub-mux's root
itself, which through the parent is the pattern `st`, not `st.`). -/
theorem add_through_mount (root sub : Node) (st ptoks : List Str) (id : Nat) (g : Group)
    (hst : LitPath st) (hloc : getAt root (st.map elemOf) = some sub) (hm : sub.mounted = true)
    (hp : ptoks ≠ []) (hp1 : ptoks ≠ [[]]) :
    addAt root (joinDots (st ++ ptoks)) id (shiftGroup st.length g) =
      ((setAt root (st.map elemOf) (addAt sub (joinDots ptoks) id g).1), (addAt sub (joinDots ptoks) id g).2) := by
  have hj : joinDots ptoks ≠ [] := fun h => (joinDots_eq_nil_iff.1 h).elim hp hp1
  rw [addAt_eq, addAt_eq, regAt, regAt, isValid_through st ptoks hst hp hj]
  cases hv : Pattern.isValid (joinDots ptoks) with
  | false =>
    simp only [Bool.not_false, if_true]
    rw [setAt_getAt hloc]
  | true =>
    simp only [Bool.not_true, Bool.false_eq_true, if_false]
    rw [splitPattern_through st ptoks hst hp hj,
      fetch_through _ sub _ hm (splitPattern_ne_nil hj) st root 0 0 [] false hst hloc]
    have := fetch_shift _ _ st.length (addK_shift id g st.length) (splitPattern (joinDots ptoks)) sub 0 0 [] false
    rw [this]

/-- the tokens of every path accepted by `Mount`/`NewMux` (`isValidPath`) form a `LitPath` -/
theorem litPath_of_validPath (p : Str) (h : Pattern.isValidPath p = true) : LitPath (splitPattern p) := by
  by_cases hne : p = []
  · subst hne; exact fun _ ht => nomatch ht
  · rw [splitPattern_of_ne hne]; exact Pattern.isValidPath_lits h hne

/-! ### non-vacuity of the mount theorems

An empty sub-mux mounted at "m.n" on an empty root (`mnt0`; the mount point is `mntSub0`), then
"m.n.a.$x" registered *through the root* with a group template whose tag position is counted in
the full pattern (`$x` is token 3), and the name "m.n.a.v" looked up. -/
def mnt0 : Node := (mountAt Node.empty b!"m.n" Node.empty).1
def mntSub0 : Node := Node.empty.setMounted true
/-- registration through the root … -/
def mnt1 := addAt mnt0 b!"m.n.a.$x" 7 (some [.idx 3])
/-- … and the same registration on the sub-mux itself (`$x` is token 1 of "a.$x") -/
def mntSub1 := addAt mntSub0 b!"a.$x" 7 (some [.idx 1])

example : (mountAt Node.empty b!"m.n" Node.empty).2 = .ok () := rfl
-- the hypotheses `hst`, `hloc`, `hm` hold before the registration …
example : LitPath [b!"m", b!"n"] := by unfold LitPath; decide
example : LitPath (splitPattern b!"m.n") := litPath_of_validPath _ (by decide)
example : getAt mnt0 ([b!"m", b!"n"].map elemOf) = some mntSub0 ∧ mntSub0.mounted = true := ⟨rfl, rfl⟩
-- … so `add_through_mount` applies (pattern tokens `["a", "$x"]`, group index 1 shifted to 3);
-- both sides are a successful registration that stores a handler
example : mnt1 = (setAt mnt0 ([b!"m", b!"n"].map elemOf) mntSub1.1, mntSub1.2) :=
  add_through_mount mnt0 mntSub0 [b!"m", b!"n"] [b!"a", b!"$x"] 7 (some [.idx 1])
    (by unfold LitPath; decide) rfl rfl (by decide) (by decide)
example : mnt1.2 = .ok () ∧ mntSub1.2 = .ok () := ⟨rfl, rfl⟩
-- the hypotheses of `match_through_mount` hold after the registration, with a successful
-- sub-mux lookup of "a.v" (mount index 0) …
example : getAt mnt1.1 ([b!"m", b!"n"].map elemOf) = some mntSub1.1 ∧ mntSub1.1.mounted = true := ⟨rfl, rfl⟩
example : (matchNode mntSub1.1 [b!"a", b!"v"] 0 0).map (·.mountIdx) = some 0 := by decide
-- … and the lookup through the root reports mount index 0 + 2, the parameter x = "v" and the
-- group "v" (token 3 of the full name = token 1 below the mount point)
example : (matchNode mnt1.1 [b!"m", b!"n", b!"a", b!"v"] 0 0).map (·.mountIdx) = some 2 := by decide
example : getHandler [] mnt1.1 b!"m.n.a.v" = .found ⟨7, [], [(b!"x", b!"v")], b!"v"⟩ := by decide
example : getHandler [] mntSub1.1 b!"a.v" = .found ⟨7, [], [(b!"x", b!"v")], b!"v"⟩ := by decide
-- the excluded case of `hp1`: "" registers on the mount point, "m.n." is invalid
example : (addAt mntSub0 (joinDots [[]]) 7 none).2 = .ok () ∧
    (addAt mnt0 (joinDots ([b!"m", b!"n"] ++ [[]])) 7 none).2 = .error .invalidPattern := ⟨rfl, rfl⟩

/-! ## non-vacuity -/
-- a=97 b=98 x=120 '$'=36 '.'=46 '>'=62 '*'=42
example : ElemsMatch [.lit [97], .param, .wild] [[97], [98], [99], [100]] := by simp [ElemsMatch]
example : MoreSpecific [.lit [97], .param] [.lit [97], .wild] := by simp [MoreSpecific, elemCls]

-- the hypotheses of `params_exact` / `group_exact` / `lookup_never_panics` / `add_conflict` are met:
-- "a.$x" registered on the empty mux, then "a.b" looked up
def ex1 := addHandlerAt Node.empty [97, 46, 36, 120] 7 [] false
example : ex1.2 = .ok () := rfl
example : (matchNode ex1.1 [[97], [98]] 0 0).isSome = true := by decide
example : getHandler [] ex1.1 [97, 46, 98] = .found ⟨7, [], [([120], [98])], [97, 46, 98]⟩ := by decide
example : Reachable ex1.1 := .handler _ _ _ _ .empty
example : (addAt Node.empty [97, 46, 42] 1 none).2 = .ok () := rfl   -- "a.*"
example : (addAt ex1.1 [97, 46, 36, 121] 1 none).2 = .error .already := rfl   -- "a.$y" hits the node of "a.$x"

end GoRes.Props.C06
