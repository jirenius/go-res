import GoRes.Model.Req
import GoRes.Lemmas.Req
/-! # C05 — requests are dispatched to the right handler with unaltered data -/
namespace GoRes.Props.C05
open GoRes GoRes.Req

/-- a token: no dot -/
def NoDot (s : Str) : Prop := ∀ c ∈ s, c ≠ 46

/-- **subject splitting**, for every resource name — dots and method-like tokens included:
`get`/`access` take everything after the type as the resource name … -/
theorem split_plain (t rname : Str) (ht : NoDot t) (h1 : t ≠ b!"call") (h2 : t ≠ b!"auth") :
    splitSubject (t ++ 46 :: rname) = some (t, rname, []) := by
  obtain ⟨e1, e2⟩ := cut_at t rname 46 ht
  simp only [splitSubject, e1, e2]
  simp [h1, h2]

/-- … `call`/`auth` take the last token as the method and everything between as the name -/
theorem split_method (t rname m : Str) (ht : t = b!"call" ∨ t = b!"auth") (hm : NoDot m) :
    splitSubject (t ++ 46 :: rname ++ 46 :: m) = some (t, rname, m) := by
  -- the method is cut off the reversed name in the same way (`strings.LastIndexByte`)
  obtain ⟨e1, e2⟩ := cut_at t (rname ++ 46 :: m) 46 (by rcases ht with rfl | rfl <;> decide)
  obtain ⟨e3, e4⟩ := cut_at m.reverse rname.reverse 46 fun c hc => hm c (List.mem_reverse.1 hc)
  have e5 : (rname ++ 46 :: m).reverse = m.reverse ++ 46 :: rname.reverse := by simp
  rw [List.append_assoc, List.cons_append]
  simp only [splitSubject, e1, e2, e5, e3, e4]
  simp [ht]
  -- left: a dot was found, `len m ≠ len (rname ++ '.' :: m)`
  omega

/-- **handler selection** (the decision table, stated outright) -/
theorem pick_access (cfg : HCfg) (r : ReqIn) (h : r.rtype = .access) :
    pick cfg r = if cfg.hasAccess then .invoke "access" else .noReplyAtAll := by
  simp [pick, h]

theorem pick_get (cfg : HCfg) (r : ReqIn) (h : r.rtype = .get) :
    pick cfg r = if cfg.hasGet then .invoke "get" else .reply (respError codeNotFound (b!"Not found") none) := by
  simp [pick, h]

theorem pick_call (cfg : HCfg) (r : ReqIn) (h : r.rtype = .call) :
    pick cfg r =
      if r.method = b!"new" ∧ cfg.hasNew then .invoke "new"           -- `new` prefers the new handler
      else if r.method ∈ cfg.call then .invoke "call"                    -- the named method
      else if [42] ∈ cfg.call then .invoke "call*"                       -- else the * method
      else .reply (respError codeMethodNotFound (b!"Method not found") none) := by
  simp [pick, h]

theorem pick_auth (cfg : HCfg) (r : ReqIn) (h : r.rtype = .auth) :
    pick cfg r =
      if r.method ∈ cfg.auth then .invoke "auth"
      else if [42] ∈ cfg.auth then .invoke "auth*"
      else .reply (respError codeMethodNotFound (b!"Method not found") none) := by
  simp [pick, h]

/-- **nothing can be invoked**: no resource → notFound; payload not JSON → internalError -/
theorem no_resource (cfg : HCfg) (r : ReqIn) (script : List Action) (h : r.found = false) :
    process cfg r script = [.pub replySubj (respError codeNotFound (b!"Not found") none)] := by
  simp [process_eq, h]

theorem bad_payload (cfg : HCfg) (r : ReqIn) (script : List Action) (h : r.found = true) (hb : r.payload = .bad) :
    process cfg r script = [.pub replySubj (respError codeInternal goErr none)] := by
  simp [process_eq, h, hb]

/-- **the handler sees the request data exactly as sent**: the first effect of an invoked handler
is the record of what it sees, which is the request's own fields -/
theorem fields_verbatim (cfg : HCfg) (r : ReqIn) (script : List Action) (kind : String)
    (hf : r.found = true) (hp : r.payload = .ok) (hk : pick cfg r = .invoke kind) :
    (process cfg r script).head? = some (.seen (encSeen kind r)) := by
  rw [process_ok script hf hp hk]
  obtain ⟨d, hd⟩ := finish_prefix cfg r (seen0 kind r) script
  rw [← hd]; rfl

/-- **outcome map**: an error of the library's type passed to `Error` (first responder of the script,
nothing but non-panicking steps before) is returned verbatim -/
theorem error_verbatim (cfg : HCfg) (r : ReqIn) (kind : String) (c m : Str) (rest : List Action)
    (hf : r.found = true) (hp : r.payload = .ok) (hk : pick cfg r = .invoke kind) (hh : r.isHTTP = false) :
    responses (process cfg r (.error (.res c m) :: rest)) = [respError c m none] := by
  have _ := hh   -- not needed: the handler has set no meta before its first action
  rw [process_ok _ hf hp hk]
  -- the first action replies; what follows runs from that state, and a log holds one response only
  exact (finish_log cfg r kind _ fun _ => hp).responses_eq
    (finish_prefix cfg r ⟨true, {}, [.seen (encSeen kind r), .pub replySubj (respError c m none)]⟩ rest)
    (responses_seen_error ..)

/-- … as is one the handler panics with -/
theorem panic_error_verbatim (cfg : HCfg) (r : ReqIn) (kind : String) (c m : Str) (rest : List Action)
    (hf : r.found = true) (hp : r.payload = .ok) (hk : pick cfg r = .invoke kind) :
    responses (process cfg r (.panic (.err (.res c m)) :: rest)) = [respError c m none] := by
  rw [process_ok _ hf hp hk]
  -- the script ends at once; the recover arm replies from the initial state, which has no meta
  exact responses_seen_error (encSeen kind r) ..

/-- any other panic before a reply becomes `system.internalError` -/
theorem other_panic_internal (cfg : HCfg) (r : ReqIn) (kind : String) (p : PanicV) (rest : List Action)
    (hf : r.found = true) (hp : r.payload = .ok) (hk : pick cfg r = .invoke kind)
    (hne : ∀ c m, p ≠ .err (.res c m)) :
    ∃ msg, responses (process cfg r (.panic p :: rest)) = [respError codeInternal msg none] := by
  rw [process_ok _ hf hp hk]
  cases p with
  | err e =>
    cases e with
    | res c m => exact absurd rfl (hne c m)
    | go m | resBad => exact ⟨_, responses_seen_error (encSeen kind r) ..⟩
  | lib | str m | other m => exact ⟨_, responses_seen_error (encSeen kind r) ..⟩

/-- a handler that returns without replying gets `system.internalError` "missing response" -/
theorem missing_reply_internal (cfg : HCfg) (r : ReqIn) (kind : String) (script : List Action)
    (hf : r.found = true) (hp : r.payload ≠ .bad) (hk : pick cfg (if r.payload = .empty then { r with cid := [], isHTTP := false, rawParams := none, token := none, query := [] } else r) = .invoke kind)
    (hs : script = []) :
    responses (process cfg r script) = [missingResponse] := by
  subst hs
  rw [process_invoke _ hf hp hk]
  exact responses_seen_error ..

/-! ## non-vacuity: a resource name with dots and a method-like token -/
-- "call" ++ "." ++ "a.call.b" ++ "." ++ "m"
example : NoDot [109] := by simp [NoDot]

end GoRes.Props.C05
